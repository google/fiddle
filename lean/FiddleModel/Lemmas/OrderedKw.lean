/-
`ordered_arguments` lists the `**kwargs` entries after everything else, in the order in which
they are stored (the insertion order of `__arguments__`).
-/
import FiddleModel.Lemmas.Dict

namespace Fiddle
open Sig

/-- A stored entry that `ordered_arguments` treats as a `**kwargs` entry. -/
def isExtra (s : Sig) (kv : Key × Val) : Bool :=
  match kv.1 with
  | .name n =>
    match s.find? n with
    | none => true
    | some p => p.kind == .vk || p.kind == .po || p.kind == .vp
  | .idx _ => false

theorem oaExtras_cons (s : Sig) (kv : Key × Val) (r res : Dict Val) :
    Cfg.oaExtras s (kv :: r) res =
      Cfg.oaExtras s r (if isExtra s kv then res.set kv.1 kv.2 else res) := by
  obtain ⟨k, v⟩ := kv
  cases k with
  | idx i => rfl
  | name n =>
    simp only [Cfg.oaExtras, isExtra]
    split <;> rename_i h <;> simp only [h]
    · rfl
    · split <;> rfl

theorem oaExtras_append {s : Sig} {d res : Dict Val} (hn : d.NodupKeys)
    (habs : ∀ kv ∈ d, isExtra s kv = true → res.contains kv.1 = false) :
    Cfg.oaExtras s d res = res ++ d.filter (isExtra s) := by
  induction d generalizing res with
  | nil => exact (List.append_nil res).symm
  | cons kv r ih =>
    obtain ⟨hk, hn'⟩ := Dict.nodupKeys_cons.mp hn
    obtain ⟨hab0, habs'⟩ := List.forall_mem_cons.mp habs
    rw [oaExtras_cons, List.filter_cons]
    split
    next he =>
      rw [Dict.set_absent (hab0 he), ih hn', List.append_assoc]
      · rfl
      · intro kv' hkv' he'
        rw [Dict.contains_append, habs' kv' hkv' he', Bool.false_or]
        have hne : kv.1 ≠ kv'.1 := fun e => hk (e ▸ Dict.mem_keys_of_mem hkv')
        simp [Dict.contains, Dict.get?_cons, hne]
    next => exact ih hn' habs'

theorem oaVar_keys {P : Key → Prop} (hidx : ∀ j, P (.idx j)) {args : Dict Val} {fuel i : Nat}
    {res : Dict Val} (h : ∀ k ∈ res.keys, P k) : ∀ k ∈ (Cfg.oaVar args fuel i res).keys, P k := by
  fun_induction Cfg.oaVar args fuel i res
  case case2 ih => exact ih (Dict.forall_keys_set h (hidx _))
  all_goals exact h

theorem oaLoop_keys {P : Key → Prop} (hidx : ∀ j, P (.idx j)) {args : Dict Val} {f : Cfg.OAFlags}
    {ps : List Param} {i : Nat} {res : Dict Val}
    (hname : ∀ p ∈ ps, p.kind ≠ .vp → p.kind ≠ .vk → p.kind ≠ .po → P (.name p.name))
    (h : ∀ k ∈ res.keys, P k) :
    ∀ k ∈ (Cfg.oaLoop args f ps i res).keys, P k := by
  fun_induction Cfg.oaLoop args f ps i res
  case case1 => exact h
  case case2 ih => exact ih (List.forall_mem_cons.mp hname).2 (oaVar_keys hidx h)
  case case5 ih =>                 -- positional-only: stored by index
    exact ih (List.forall_mem_cons.mp hname).2 (Dict.forall_keys_set h (hidx _))
  case case6 hpo hvp hvk ih =>     -- stored by name
    obtain ⟨h0, hname'⟩ := List.forall_mem_cons.mp hname
    exact ih hname' (Dict.forall_keys_set h (h0 hvp hvk (mt beq_iff_eq.mpr hpo)))
  case case3 ih | case4 ih | case7 ih => exact ih (List.forall_mem_cons.mp hname).2 h

end Fiddle
