/-
C11: calling an auto_config function directly (`CExpr.call`) and evaluating it into a configuration
(`CExpr.eval`) run in lock-step — same references, and the direct call's objects are the
configuration's objects read through `builtOf` (`CallImage`). `fdl.build` of that configuration
returns (`CallImage.binds`, with `CProg.run_wf` of `CodegenL`) the same objects up to the renaming its memo induces
(`built_is_renamed_call`), binding being natural in the argument values.
-/
import FiddleModel.Lemmas.CodegenL
import FiddleModel.Lemmas.Build

namespace Fiddle

def CallImage (h : Heap) (out : List BObj) : Prop := h.map builtOf = out.map some

theorem CallImage.length {h : Heap} {out : List BObj} (hi : CallImage h out) :
    h.length = out.length := by
  simpa using congrArg List.length hi

theorem CallImage.snoc {h : Heap} {out : List BObj} (hi : CallImage h out) {o : GObj} {b : BObj}
    (hb : builtOf o = some b) : CallImage (h ++ [o]) (out ++ [b]) := by
  unfold CallImage at *
  simp [hi, hb]

theorem CallImage.get {h : Heap} {out : List BObj} (hi : CallImage h out) {i : Nat} {o : GObj}
    (ho : h[i]? = some o) : out[i]? = builtOf o := by
  have := congrArg (·[i]?) hi
  rw [List.getElem?_map, List.getElem?_map, ho] at this
  obtain ⟨b, hb, e⟩ := Option.map_eq_some_iff.mp this.symm
  exact hb.trans e

mutual
theorem CExpr.call_lockstep {e env h out v out'} (hi : CallImage h out)
    (he : CExpr.call e env out = some (v, out')) :
    ∃ h', e.eval env h = some (v, h') ∧ CallImage h' out' := by
  cases e with
  | atom t =>
    cases he
    exact ⟨h, rfl, hi⟩
  | var x =>
    obtain ⟨w, hw, ⟨⟩⟩ := Option.map_eq_some_iff.mp he
    exact ⟨h, Option.map_eq_some_iff.mpr ⟨_, hw, rfl⟩, hi⟩
  | node kind ty bk sig ch tags =>
    rw [CExpr.call] at he
    split at he
    · cases he
    · next vals out1 hc =>
      split at he
      · cases he
      · next b hb =>
        cases he
        obtain ⟨h1, he1, hi1⟩ := CExpr.callCh_lockstep ch env h out vals out1 hi hc
        exact ⟨_, by simp only [CExpr.eval, he1, hi1.length], hi1.snoc hb⟩
theorem CExpr.callCh_lockstep : ∀ (ch : List (PElem × CExpr)) (env : CEnv) (h : Heap)
    (out : List BObj) (vs : List (PElem × GVal)) (out' : List BObj), CallImage h out →
    CExpr.callCh ch env out = some (vs, out') →
    ∃ h', CExpr.evalCh ch env h = some (vs, h') ∧ CallImage h' out' := by
  intro ch env h out vs out' hi he
  cases ch with
  | nil =>
    cases he
    exact ⟨h, rfl, hi⟩
  | cons c r =>
    rw [CExpr.callCh] at he
    split at he
    · cases he
    · next v out1 h1e =>
      split at he
      · cases he
      · next vs' out2 h2e =>
        cases he
        obtain ⟨h1, he1, hi1⟩ := CExpr.call_lockstep hi h1e
        obtain ⟨h2, he2, hi2⟩ := CExpr.callCh_lockstep r env h1 out1 vs' out' hi1 h2e
        exact ⟨h2, by simp only [CExpr.evalCh, he1, he2], hi2⟩
end

theorem callAssigns_lockstep {as : List (Nat × CExpr)} {env env' : CEnv} {h : Heap}
    {out out' : List BObj} (hi : CallImage h out) (he : callAssigns as env out = some (env', out')) :
    ∃ h', runAssigns as env h = some (env', h') ∧ CallImage h' out' := by
  fun_induction callAssigns as env out generalizing h
  case case1 => cases he; exact ⟨h, rfl, hi⟩
  case case2 => cases he
  case case3 h1e ih =>
    obtain ⟨h1, he1, hi1⟩ := CExpr.call_lockstep hi h1e
    obtain ⟨h2, he2, hi2⟩ := ih hi1 he
    exact ⟨h2, by simp only [runAssigns, he1, he2], hi2⟩

theorem CProg.callRun_lockstep {p : CProg} {r : GVal} {out : List BObj}
    (hc : p.callRun = some (r, out)) : ∃ h, p.run = some (r, h) ∧ CallImage h out := by
  unfold CProg.callRun at hc
  split at hc
  · cases hc
  · next env out1 ha =>
    obtain ⟨h1, he1, hi1⟩ := callAssigns_lockstep (h := []) (out := []) rfl ha
    obtain ⟨h2, he2, hi2⟩ := CExpr.call_lockstep hi1 hc
    exact ⟨h2, by simp only [CProg.run, he1, he2], hi2⟩

mutual
theorem CExpr.eval_lockstep {e env h out v h'} (hi : CallImage h out)
    (he : CExpr.eval e env h = some (v, h')) (hall : ∀ o ∈ h', (builtOf o).isSome) :
    ∃ out', e.call env out = some (v, out') ∧ CallImage h' out' := by
  cases e with
  | atom t =>
    cases he
    exact ⟨out, rfl, hi⟩
  | var x =>
    obtain ⟨w, hw, ⟨⟩⟩ := Option.map_eq_some_iff.mp he
    exact ⟨out, Option.map_eq_some_iff.mpr ⟨_, hw, rfl⟩, hi⟩
  | node kind ty bk sig ch tags =>
    obtain ⟨vals, h1, hc, rfl, rfl⟩ := CExpr.eval_node_ok he
    rw [List.forall_mem_append, List.forall_mem_singleton] at hall
    obtain ⟨out1, hc1, hi1⟩ := CExpr.evalCh_lockstep ch env h out vals h1 hi hc hall.1
    obtain ⟨b, hb⟩ := Option.isSome_iff_exists.mp hall.2
    exact ⟨out1 ++ [b], by simp only [CExpr.call, hc1, hb, hi1.length], hi1.snoc hb⟩
theorem CExpr.evalCh_lockstep : ∀ (ch : List (PElem × CExpr)) (env : CEnv) (h : Heap)
    (out : List BObj) (vs : List (PElem × GVal)) (h' : Heap), CallImage h out →
    CExpr.evalCh ch env h = some (vs, h') → (∀ o ∈ h', (builtOf o).isSome) →
    ∃ out', CExpr.callCh ch env out = some (vs, out') ∧ CallImage h' out' := by
  intro ch env h out vs h' hi he hall
  cases ch with
  | nil =>
    cases he
    exact ⟨out, rfl, hi⟩
  | cons c r =>
    obtain ⟨v, h1, vs', h1e, h2e, rfl⟩ := CExpr.evalCh_cons_ok he
    obtain ⟨out1, hc1, hi1⟩ := CExpr.eval_lockstep hi h1e
      fun o ho => hall o ((CExpr.evalCh_prefix h2e).subset ho)
    obtain ⟨out2, hc2, hi2⟩ := CExpr.evalCh_lockstep r env h1 out1 vs' h' hi1 h2e hall
    exact ⟨out2, by simp only [CExpr.callCh, hc1, hc2], hi2⟩
end

theorem runAssigns_lockstep {as : List (Nat × CExpr)} {env env' : CEnv} {h h' : Heap}
    {out : List BObj} (hi : CallImage h out) (he : runAssigns as env h = some (env', h'))
    (hall : ∀ o ∈ h', (builtOf o).isSome) :
    ∃ out', callAssigns as env out = some (env', out') ∧ CallImage h' out' := by
  fun_induction runAssigns as env h generalizing out
  case case1 => cases he; exact ⟨out, rfl, hi⟩
  case case2 => cases he
  case case3 h1e ih =>
    obtain ⟨out1, hc1, hi1⟩ := CExpr.eval_lockstep hi h1e
      fun o ho => hall o ((runAssigns_prefix he).subset ho)
    obtain ⟨out2, hc2, hi2⟩ := ih hi1 he
    exact ⟨out2, by simp only [callAssigns, hc1, hc2], hi2⟩

theorem CProg.run_lockstep {p : CProg} {r : GVal} {h : Heap} (hp : p.run = some (r, h))
    (hall : ∀ o ∈ h, (builtOf o).isSome) :
    ∃ out, p.callRun = some (r, out) ∧ CallImage h out := by
  unfold CProg.run at hp
  split at hp
  · cases hp
  · next env h1 ha =>
    obtain ⟨out1, hc1, hi1⟩ := runAssigns_lockstep (h := []) (out := []) rfl ha
      fun o ho => hall o ((CExpr.eval_prefix hp).subset ho)
    obtain ⟨out2, hc2, hi2⟩ := CExpr.eval_lockstep hi1 hp hall
    exact ⟨out2, by simp only [CProg.callRun, hc1, hc2], hi2⟩

def renV (ρ : Nat → BVal) : BVal → BVal
  | .built i => ρ i
  | b => b

def renO (ρ : Nat → BVal) : BObj → BObj
  | .container k ty ch => .container k ty (ch.map (fun c => (c.1, renV ρ c.2)))
  | .call fn s v kw => .call fn (s.map (fun c => (c.1, renV ρ c.2))) (v.map (renV ρ))
      (kw.map (fun c => (c.1, renV ρ c.2)))

theorem bindBack_map (vals : List BVal) (ρ : Nat → BVal) (v : Val) :
    bindBack (vals.map (renV ρ)) v = renV ρ (bindBack vals v) := by
  cases v <;> try rfl
  next n =>
    simp only [bindBack, List.getD_eq_getElem?_getD, List.getElem?_map]
    cases vals[n]? <;> rfl

theorem bindBuilt_map (o : GObj) (vals : List BVal) (ρ : Nat → BVal) :
    bindBuilt o (vals.map (renV ρ)) =
      (bindBuilt o vals).map (fun r => (r.1.map (fun c => (c.1, renV ρ c.2)), r.2.1.map (renV ρ),
        r.2.2.map (fun c => (c.1, renV ρ c.2)))) := by
  rw [bindBuilt_eq, bindBuilt_eq]
  cases bindShape o with
  | error e => rfl
  | ok b => simp only [Except.map, List.map_map, Function.comp_def, bindBack_map,
      funext (bindBack_map vals ρ)]

theorem builtWith_map (o : GObj) (vals : List BVal) (ρ : Nat → BVal) :
    builtWith o (vals.map (renV ρ)) = (builtWith o vals).map (renO ρ) := by
  unfold builtWith
  split
  · rw [bindBuilt_map]
    cases bindBuilt o vals <;> rfl
  · simp only [Option.map_some, renO, List.zip_map_right]
    rfl

/-- The renaming a build induces on the references of the direct call's objects: object `k` of
    the direct call goes to what the build made for configuration object `k`. -/
def buildRen (st : BuildSt) (k : Nat) : BVal := resultOf st.memo (.ref k)

theorem resultOf_eq_ren (st : BuildSt) (v : GVal) : resultOf st.memo v = renV (buildRen st) (toB v) := by
  cases v <;> rfl

theorem built_is_renamed_call {h : Heap} {out : List BObj} {st : BuildSt} (hi : CallImage h out)
    (hm : Mirror h st) {i j : Nat} (hij : memoGet st.memo i = some (.built j)) :
    st.out[j]? = (out[i]?).map (renO (buildRen st)) := by
  obtain ⟨o, ho, _, hd⟩ := hm i j hij
  have hj : st.out[j]? = builtWith o (o.children.map fun c => resultOf st.memo c.2) := by
    rcases hd with ⟨hc, _, _, _, hj, hb⟩ | ⟨hc, hj⟩
    · rwa [builtWith, if_pos (beq_iff_eq.mpr hc), hb]
    · rwa [builtWith, if_neg (mt eq_of_beq hc)]
  have hch : o.children.map (fun c => resultOf st.memo c.2) =
      (o.children.map (fun c => toB c.2)).map (renV (buildRen st)) := by
    simp only [List.map_map, Function.comp_def, resultOf_eq_ren]
  rw [hj, hch, builtWith_map, hi.get ho]
  rfl  -- `builtOf o` is `builtWith o` on the children read by `toB`

theorem CallImage.binds {h : Heap} {out : List BObj} (hi : CallImage h out) : h.Binds := by
  intro o ho hk vals
  obtain ⟨b, -, hb⟩ := List.mem_map.mp (hi ▸ List.mem_map_of_mem (f := builtOf) ho)
  rw [builtOf, if_pos (beq_iff_eq.mpr hk)] at hb
  cases hbb : bindBuilt o (o.children.map fun c => toB c.2) with
  | error e => rw [hbb] at hb; cases hb
  | ok r => exact bindBuilt_ok_indep vals hbb

end Fiddle
