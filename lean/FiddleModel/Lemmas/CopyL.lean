/-
Copies: where the copy of object `i` sits and what it holds; `followPath_agree`, the frame fact
behind C07 and C17 (a heap that agrees with `h` below `n` answers path queries from there as `h` does).
-/
import FiddleModel.Model.Copy
import FiddleModel.Lemmas.Traverse

namespace Fiddle

theorem deepcopy_copy (h : Heap) (i : Nat) :
    (h.deepcopy)[i + h.length]? = (h[i]?).map (shiftObj h.length) := by
  rw [Heap.deepcopy, List.getElem?_append_right (Nat.le_add_left _ _), Nat.add_sub_cancel,
    List.getElem?_map]

theorem deepcopy_copy_some {h : Heap} {i : Nat} {o : GObj} (ho : h[i]? = some o) :
    (h.deepcopy)[i + h.length]? = some (shiftObj h.length o) := by
  rw [deepcopy_copy, ho]; rfl

theorem deepcopy_length (h : Heap) : h.deepcopy.length = h.length + h.length := by
  simp [Heap.deepcopy]

theorem shiftVal_injective (n : Nat) (a b : GVal) (e : shiftVal n a = shiftVal n b) : a = b := by
  cases a <;> cases b <;> simp [shiftVal] at e ⊢ <;> omega

theorem childAt_shift (n : Nat) (o : GObj) (pe : PElem) :
    childAt (shiftObj n o) pe = (childAt o pe).map (shiftVal n) :=
  assoc_map_snd (shiftVal n) o.children pe

theorem shallowCopy_orig (h : Heap) (i : Nat) (bk : Option String) (k : Nat) (hk : k < h.length) :
    (h.shallowCopy i bk)[k]? = h[k]? := by
  unfold Heap.shallowCopy
  cases h[i]? with
  | none => rfl
  | some o => exact List.getElem?_append_left hk

theorem shallowCopy_new {h : Heap} {i : Nat} (bk : Option String) {o : GObj} (ho : h[i]? = some o) :
    (h.shallowCopy i bk)[h.length]? = some { o with bk := bk.getD o.bk } := by
  rw [Heap.shallowCopy, ho]; exact List.getElem?_concat_length

theorem followPath_agree {h h2 : Heap} (wf : h.WellFormed) {n : Nat}
    (hag : ∀ i, i < n → h2[i]? = h[i]?) (p : Path) (v : GVal) (hv : v.rank ≤ n) :
    followPath h2 v p = followPath h v p := by
  refine (followPath_sim (f := id) (S := fun v => v.rank ≤ n) ?_ ?_ p v hv).trans Option.map_id'
  · intro v pe hv
    cases v with
    | atom t => rfl
    | ref i => rw [id, followPath_single_ref, followPath_single_ref, hag i hv, Option.map_id]; rfl
  · intro v pe c hv hc
    exact Nat.le_trans (Nat.le_of_lt (wf.rank_kids (mem_kids_of_followPath hc))) hv

end Fiddle
