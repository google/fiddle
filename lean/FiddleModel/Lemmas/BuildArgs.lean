/-
Build mode of `transform_to_args_kwargs` (include_no_value = False): the positional list it
returns is ALIGNED with the parameters it passes positionally (`posMode`) — entry j is the stored
value of the j-th of them or, for a slot that had to be filled, that parameter's own default — and
a required slot is never skipped over. What it leaves in the dict (any mode) is what is passed by
keyword: the stored entries in their order, minus those taken out for positional slots.
-/
import FiddleModel.Lemmas.View

namespace Fiddle
open Sig

/-- `*args` presence flag and run, as `transform_to_args_kwargs` computes them. -/
def varPresent (s : Sig) (d : Dict Val) : Bool :=
  match s.vpStart with
  | some i => d.contains (.idx i)
  | none => false

def varArgs (s : Sig) (d : Dict Val) : List Val :=
  match s.vpStart with
  | some st => varRun d d.length st
  | none => []

namespace Sig

/-- `inclPk` is `include_pos_or_kw_in_args`, `vp` the test `var_positional_start in arguments`. -/
def posMode (inclPk vp : Bool) (p : Param) : Bool :=
  p.kind == .po || (p.kind == .pk && (inclPk || vp))

def dfltOpt (p : Param) : Option Val := if p.dflt then some (dfltVal p) else none

/-- What each positional-mode parameter should receive: its stored value, else its default,
    else nothing (`none` = required and unset). -/
def expectedSlots (inclPk vp : Bool) (d : Dict Val) : List Param → Nat → List (Option Val)
  | [], _ => []
  | p :: ps, i =>
    if posMode inclPk vp p then
      (match posKey p i with
       | some k => (match d.get? k with | some v => some v | none => dfltOpt p)
       | none => dfltOpt p) :: expectedSlots inclPk vp d ps (i + 1)
    else expectedSlots inclPk vp d ps (i + 1)

/-- One round of `expectedSlots`, by the storage key on which `taLoop_cons` branches. -/
theorem expectedSlots_cons (a vp : Bool) (d : Dict Val) (p : Param) (ps : List Param) (i : Nat) :
    expectedSlots a vp d (p :: ps) i =
      match (if p.kind = .pk ∧ (a || vp) = false then none else posKey p i) with
      | none => expectedSlots a vp d ps (i + 1)
      | some k => (match d.get? k with | some v => some v | none => dfltOpt p) ::
          expectedSlots a vp d ps (i + 1) := by
  rw [expectedSlots, posMode, posKey]
  cases p.kind
  case pk => cases (a || vp) <;> rfl
  all_goals rfl

theorem fillSkipped_ok {sk : List Param} {pos pos' : List Val} (h : fillSkipped pos sk = .ok pos') :
    pos'.map some = pos.map some ++ sk.map dfltOpt := by
  fun_induction fillSkipped pos sk
  case case1 => cases h; simp
  case case2 hd ih => simp [ih h, dfltOpt, hd]
  case case3 => cases h

theorem fillSkipped_required_raises (sk : List Param) (pos : List Val)
    (h : ∃ p ∈ sk, p.dflt = false) : fillSkipped pos sk = .error .typeError := by
  fun_induction fillSkipped pos sk
  case case1 => obtain ⟨p, hp, _⟩ := h; cases hp
  case case2 hq ih =>
    obtain ⟨p, hp, hd⟩ := h
    rcases List.mem_cons.mp hp with rfl | hp'
    · rw [hq] at hd; cases hd
    · exact ih ⟨p, hp', hd⟩
  case case3 => rfl

variable {s : Sig} {a b vp : Bool}

/-- The invariant of the build-mode loop: with `some` for a passed value and `dfltOpt` for a
    skipped parameter, positional list and skipped slots together grow by exactly `expectedSlots`
    of the ORIGINAL dict `d`, as long as the working dict agrees with `d` on the (distinct) keys
    still to come. -/
theorem taLoop_build_aligned {d : Dict Val} {ps : List Param} {i : Nat} {pos pos' : List Val}
    {rest rest' : Dict Val} {sk sk' : List Param}
    (hnd : (posKeys ps i).Nodup) (hag : ∀ k ∈ posKeys ps i, rest.get? k = d.get? k)
    (h : taLoop s a false vp ps i pos rest sk = .ok (pos', rest', sk')) :
    pos'.map some ++ sk'.map dfltOpt =
      pos.map some ++ sk.map dfltOpt ++ expectedSlots a vp d ps i := by
  induction ps generalizing i pos rest sk with
  | nil =>
    cases h
    simp [expectedSlots]
  | cons p ps ih =>
    rw [posKeys_cons] at hnd hag
    obtain ⟨-, hnd', hdisj⟩ := List.nodup_append.mp hnd
    obtain ⟨hag0, hag'⟩ := List.forall_mem_append.mp hag
    rw [taLoop_cons] at h
    rw [expectedSlots_cons]
    split at h
    next hk0 => simp only [hk0, ih hnd' hag' h]
    next k hk0 =>
      have hmem : k ∈ (posKey p i).toList :=
        Option.mem_toList.mpr (Option.ite_none_left_eq_some.mp hk0).2
      simp only [hk0, ← hag0 k hmem]
      split at h
      next v hv =>     -- stored: what was skipped is filled first
        split at h
        next posf hf =>
          rw [ih hnd' (fun k' hk' =>
            (Dict.get?_del_other (hdisj k hmem k' hk')).trans (hag' k' hk')) h, hv]
          simp [fillSkipped_ok hf]
        next => cases h
      next hv =>       -- unset: skipped
        rw [if_neg Bool.false_ne_true] at h
        rw [ih hnd' hag' h, hv]
        simp

theorem collectVar_rest {fuel i : Nat} {pos pos' : List Val} {rest rest' : Dict Val} {sk : List Param}
    (h : collectVar fuel i pos rest sk = .ok (pos', rest')) :
    rest'.Sublist rest ∧ ∀ n, rest'.get? (.name n) = rest.get? (.name n) := by
  fun_induction collectVar fuel i pos rest sk
  case case2 ih =>
    obtain ⟨h1, h2⟩ := ih h
    exact ⟨h1.trans Dict.del_sublist, fun n => (h2 n).trans (Dict.get?_del_other nofun)⟩
  case case3 => cases h
  all_goals cases h; exact ⟨.refl _, fun _ => rfl⟩

theorem collectVar_build {d : Dict Val} {fuel i : Nat} {pos pos' : List Val} {rest rest' : Dict Val}
    {sk : List Param}
    (hag : ∀ j, i ≤ j → rest.get? (.idx j) = d.get? (.idx j))
    (h : collectVar fuel i pos rest sk = .ok (pos', rest')) :
    ∃ front sk', pos' = front ++ varRun d fuel i ∧
      front.map some ++ sk'.map dfltOpt = pos.map some ++ sk.map dfltOpt ∧
      (varRun d fuel i ≠ [] → sk' = []) := by
  revert h
  fun_cases collectVar fuel i pos rest sk
  case case2 fuel v hv posf hf =>
    -- also the first round of the loop from `posf` with nothing to fill
    obtain ⟨rest'', h1⟩ := collectVar_run d (fuel + 1) i posf rest hag
    simp only [collectVar, hv, fillSkipped_nil] at h1
    rw [h1]
    rintro ⟨⟩
    exact ⟨posf, [], rfl, by simp [fillSkipped_ok hf], fun _ => rfl⟩
  case case3 => nofun
  case' case4 fuel hv => rw [varRun, ← hag i (Nat.le_refl i), hv]
  all_goals   -- empty run
    rintro ⟨⟩
    exact ⟨pos, sk, (List.append_nil pos).symm, rfl, fun hc => absurd rfl hc⟩

/-- Read as `C01_positional_aligned`, for either value of `include_pos_or_kw_in_args`. -/
theorem toArgsKwargs_aligned {d : Dict Val} (wf : ViewWF s) {pos : List Val} {kw : Dict Val}
    (h : s.toArgsKwargs d a false = .ok (pos, kw)) :
    ∃ front sk', pos = front ++ varArgs s d ∧
      front.map some ++ sk'.map dfltOpt = expectedSlots a (varPresent s d) d s 0 ∧
      (varArgs s d ≠ [] → sk' = []) := by
  revert h
  fun_cases toArgsKwargs s d a false
  case case1 => nofun
  case case2 pos1 rest1 sk1 hl hvs =>
    rintro ⟨⟩
    rw [varArgs, hvs]
    exact ⟨pos, sk1, (List.append_nil pos).symm,
      taLoop_build_aligned wf.keysNodup (fun _ _ => rfl) hl, fun hc => absurd rfl hc⟩
  case case3 pos1 rest1 sk1 hl st hvs =>
    intro hv
    rw [varArgs, hvs]
    -- the parameter loop has deleted no int key from `st` on: positional-only parameters sit
    -- before `*args`
    obtain ⟨front, sk', hp, he, hsk⟩ := collectVar_build (fun j hj => (taLoop_rest hl).2 _
      fun hmem => Nat.not_lt.mpr hj (wf.poBeforeVar _ hmem st j hvs rfl)) hv
    exact ⟨front, sk', hp, he.trans (taLoop_build_aligned wf.keysNodup (fun _ _ => rfl) hl), hsk⟩

theorem name_not_mem_posKeys {n : String} {ps : List Param} {i : Nat}
    (h : ∀ p ∈ ps, p.kind = .pk → p.name ≠ n) : .name n ∉ posKeys ps i := by
  induction ps generalizing i with
  | nil => exact List.not_mem_nil
  | cons p ps ih =>
    obtain ⟨h0, h'⟩ := List.forall_mem_cons.mp h
    rw [posKeys_cons, List.mem_append, not_or]
    refine ⟨?_, ih h'⟩
    unfold posKey
    cases hk : p.kind <;> simp
    exact Ne.symm (h0 hk)

theorem toArgsKwargs_rest {d : Dict Val} {pos : List Val} {kw : Dict Val}
    (h : s.toArgsKwargs d a b = .ok (pos, kw)) :
    kw.Sublist d ∧
      ∀ n, (∀ p ∈ s, p.kind = .pk → p.name ≠ n) → kw.get? (.name n) = d.get? (.name n) := by
  revert h
  fun_cases toArgsKwargs s d a b
  case case1 => nofun
  case case2 hl _ =>
    rintro ⟨⟩
    exact ⟨(taLoop_rest hl).1, fun n hn => (taLoop_rest hl).2 _ (name_not_mem_posKeys hn)⟩
  case case3 hl _ _ =>
    intro hv
    obtain ⟨c1, c2⟩ := collectVar_rest hv
    refine ⟨c1.trans (taLoop_rest hl).1, fun n hn => ?_⟩
    rw [c2, (taLoop_rest hl).2 _ (name_not_mem_posKeys hn)]

end Sig
end Fiddle
