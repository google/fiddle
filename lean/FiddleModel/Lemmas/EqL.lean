/-
The value half of `==` (`valEq`), one pair of objects at a time.

`NodeEq R a b` is one step of the comparison over an arbitrary relation `R` on the children:
sequences are compared in order (`SeqRel`), dicts and Buildables by key (`MapRel`).  The recursive
case of `valEq` is unfolded once (`valEq_ref_ref`); everything else about it (reflexive, independent of surplus
fuel, and in `Properties/C06.lean` symmetric and transitive) is an argument about `NodeEq`,
lifted through the fuel by `valEq_induct` wherever a successful comparison is at hand.
-/
import FiddleModel.Model.Eq
import FiddleModel.Lemmas.Basic

namespace Fiddle
theorem Heap.eqWF_of_B (h : Heap) (hb : h.eqWFB = true) : h.EqWF := by
  have row := fun i o (ho : h[i]? = some o) =>
    List.all_eq_true.mp hb (o, i) (List.mem_zipIdx_iff_getElem?.mpr ho)
  simp only [Bool.and_eq_true, decide_eq_true_eq, List.all_eq_true] at row
  refine ⟨fun i o ho pv hpv j hj => ?_, fun i o ho => (row i o ho).1.2,
    fun i o ho => (row i o ho).2, fun i o ho pv hpv j hj => ?_⟩
  · simpa [hj] using (row i o ho).1.1.1 pv hpv
  · simpa [hj] using (row i o ho).1.1.2 pv hpv

theorem ref_lt_mono {v : GVal} {m k : Nat} (b : ∀ i, v = .ref i → i < m) (hk : m ≤ k) :
    ∀ i, v = .ref i → i < k :=
  fun i e => Nat.lt_of_lt_of_le (b i e) hk

theorem Heap.EqWF.child_lt {h : Heap} (wf : h.EqWF) {i n : Nat} {o : GObj} (ho : h[i]? = some o)
    {x : PElem × GVal} (hx : x ∈ childrenWithDefaults o) (hi : i < n + 1) :
    ∀ k, x.2 = .ref k → k < n :=
  ref_lt_mono (wf.ch i o ho x hx) (Nat.le_of_lt_succ hi)

theorem cwd_noncfg {o : GObj} (h : o.kind ≠ .cfg) : childrenWithDefaults o = o.children := by
  unfold childrenWithDefaults
  simp [h]

theorem isInternable_atom (h : Heap) (n : Nat) (t : String) : isInternable h n (.atom t) = true := by
  cases n <;> rfl

def GObj.seqLike (o : GObj) : Bool :=
  o.kind == .list || o.kind == .tuple || o.kind == .ntuple || o.kind == .custom

theorem GObj.seqLike_congr {a b : GObj} (hk : a.kind = b.kind) : a.seqLike = b.seqLike := by
  unfold GObj.seqLike; rw [hk]

theorem GObj.seqLike_not_cfg {o : GObj} (h : o.seqLike = true) : o.kind ≠ .cfg := by
  intro e; simp [GObj.seqLike, e] at h

section Rel
variable {R R' R'' : GVal → GVal → Prop} {ca ca' cb cb' cc : List (PElem × GVal)}

def SeqRel (R : GVal → GVal → Prop) (ca cb : List (PElem × GVal)) : Prop :=
  ca.length = cb.length ∧
    ∀ (n : Nat) (x y : PElem × GVal), ca[n]? = some x → cb[n]? = some y → x.1 = y.1 ∧ R x.2 y.2

def MapRel (R : GVal → GVal → Prop) (ca cb : List (PElem × GVal)) : Prop :=
  ca.length = cb.length ∧ ∀ x ∈ ca, ∃ y, lookupChild cb x.1 = some y ∧ R x.2 y

theorem seqRel_iff_all {r : GVal → GVal → Bool} :
    (ca.length == cb.length && (ca.zip cb).all (fun (x, y) => x.1 == y.1 && r x.2 y.2)) = true ↔
      SeqRel (fun v w => r v w = true) ca cb := by
  simp only [Bool.and_eq_true, beq_iff_eq, List.all_eq_true]
  refine and_congr_right fun _ => ⟨fun h n x y hx hy => ?_, fun h p hp => ?_⟩
  · exact h (x, y) (List.mem_iff_getElem?.mpr ⟨n, List.getElem?_zip_eq_some.mpr ⟨hx, hy⟩⟩)
  · obtain ⟨n, hn⟩ := List.mem_iff_getElem?.mp hp
    exact h n p.1 p.2 (List.getElem?_zip_eq_some.mp hn).1 (List.getElem?_zip_eq_some.mp hn).2

theorem mapRel_iff_all {r : GVal → GVal → Bool} :
    (ca.length == cb.length && ca.all (fun x => match lookupChild cb x.1 with
      | some y => r x.2 y
      | none => false)) = true ↔ MapRel (fun v w => r v w = true) ca cb := by
  simp only [Bool.and_eq_true, beq_iff_eq, List.all_eq_true]
  refine and_congr_right fun _ => forall₂_congr fun x _ => ?_
  cases lookupChild cb x.1 <;> simp

theorem SeqRel.partner (h : SeqRel R ca cb) {x : PElem × GVal} (hx : x ∈ ca) :
    ∃ y ∈ cb, x.1 = y.1 ∧ R x.2 y.2 := by
  obtain ⟨n, hn⟩ := List.mem_iff_getElem?.mp hx
  have hlt : n < cb.length := h.1 ▸ (List.getElem?_eq_some_iff.mp hn).1
  exact ⟨cb[n], List.getElem_mem hlt, h.2 n x cb[n] hn (List.getElem?_eq_getElem hlt)⟩

theorem SeqRel.imp (h : SeqRel R ca cb) (hi : ∀ x ∈ ca, ∀ y ∈ cb, R x.2 y.2 → R' x.2 y.2) :
    SeqRel R' ca cb :=
  ⟨h.1, fun n x y hx hy => ⟨(h.2 n x y hx hy).1,
    hi x (List.mem_of_getElem? hx) y (List.mem_of_getElem? hy) (h.2 n x y hx hy).2⟩⟩

theorem SeqRel.same (h : ∀ x ∈ ca, R x.2 x.2) : SeqRel R ca ca :=
  ⟨rfl, fun _ x _ hx hy =>
    Option.some.inj (hx.symm.trans hy) ▸ ⟨rfl, h x (List.mem_of_getElem? hx)⟩⟩

theorem SeqRel.symm (h : SeqRel R ca cb) (hs : ∀ x ∈ ca, ∀ y ∈ cb, R x.2 y.2 → R' y.2 x.2) :
    SeqRel R' cb ca :=
  ⟨h.1.symm, fun n y x hy hx => ⟨(h.2 n x y hx hy).1.symm,
    hs x (List.mem_of_getElem? hx) y (List.mem_of_getElem? hy) (h.2 n x y hx hy).2⟩⟩

theorem SeqRel.trans (h : SeqRel R ca cb) (h' : SeqRel R' cb cc)
    (ht : ∀ u v w, R u v → R' v w → R'' u w) : SeqRel R'' ca cc :=
  ⟨h.1.trans h'.1, fun n x z hx hz => by
    have hlt : n < cb.length := h.1 ▸ (List.getElem?_eq_some_iff.mp hx).1
    have p := h.2 n x cb[n] hx (List.getElem?_eq_getElem hlt)
    have q := h'.2 n cb[n] z (List.getElem?_eq_getElem hlt) hz
    exact ⟨p.1.trans q.1, ht _ _ _ p.2 q.2⟩⟩

theorem SeqRel.all_eq {p q : GVal → Bool} (h : SeqRel (fun v w => p v = q w) ca cb) :
    ca.all (fun x => p x.2) = cb.all (fun y => q y.2) := by
  rw [Bool.eq_iff_iff, List.all_eq_true, List.all_eq_true]
  constructor
  · intro hp y hy
    obtain ⟨x, hx, _, e⟩ :=
      (h.symm (R' := fun w v => q w = p v) fun _ _ _ _ e => e.symm).partner hy
    exact e ▸ hp x hx
  · intro hq x hx
    obtain ⟨y, hy, _, e⟩ := h.partner hx
    exact e ▸ hq y hy

theorem MapRel.imp (h : MapRel R ca cb) (hi : ∀ x ∈ ca, ∀ y ∈ cb, R x.2 y.2 → R' x.2 y.2) :
    MapRel R' ca cb :=
  ⟨h.1, fun x hx => let ⟨y, hy, hr⟩ := h.2 x hx; ⟨y, hy, hi x hx _ (assoc_mem hy) hr⟩⟩

theorem MapRel.same (nd : (ca.map (·.1)).Nodup) (h : ∀ x ∈ ca, R x.2 x.2) : MapRel R ca ca :=
  ⟨rfl, fun x hx => ⟨x.2, assoc_of_mem nd hx, h x hx⟩⟩

theorem MapRel.and (h : MapRel R ca cb) (h' : MapRel R' ca cb) :
    MapRel (fun v w => R v w ∧ R' v w) ca cb :=
  ⟨h.1, fun x hx => by
    obtain ⟨y, hy, hr⟩ := h.2 x hx
    obtain ⟨y', hy', hr'⟩ := h'.2 x hx
    cases hy.symm.trans hy'
    exact ⟨y, hy, hr, hr'⟩⟩

theorem MapRel.trans (h : MapRel R ca cb) (h' : MapRel R' cb cc)
    (ht : ∀ x ∈ ca, ∀ y ∈ cb, ∀ z ∈ cc, R x.2 y.2 → R' y.2 z.2 → R'' x.2 z.2) :
    MapRel R'' ca cc :=
  ⟨h.1.trans h'.1, fun x hx => by
    obtain ⟨y, hy, hr⟩ := h.2 x hx
    obtain ⟨z, hz, hr'⟩ := h'.2 (x.1, y) (assoc_mem hy)
    exact ⟨z, hz, ht x hx _ (assoc_mem hy) _ (assoc_mem hz) hr hr'⟩⟩

/-- Pigeonhole: a key of `cb` missing in `ca` would, with the distinct keys of `ca`, make more
    distinct keys than `cb` has. -/
theorem MapRel.symm (na : (ca.map (·.1)).Nodup) (nb : (cb.map (·.1)).Nodup) (h : MapRel R ca cb)
    (hs : ∀ x ∈ ca, ∀ y ∈ cb, R x.2 y.2 → R' y.2 x.2) : MapRel R' cb ca := by
  have hsub : ca.map (·.1) ⊆ cb.map (·.1) := by
    intro k hk
    obtain ⟨x, hx, rfl⟩ := List.mem_map.mp hk
    obtain ⟨y, hy, _⟩ := h.2 x hx
    exact List.mem_map.mpr ⟨_, assoc_mem hy, rfl⟩
  refine ⟨h.1.symm, fun y hy => ?_⟩
  have hk : y.1 ∈ ca.map (·.1) := Decidable.by_contra fun hk => by
    have := (List.nodup_cons.mpr ⟨hk, na⟩).length_le_of_subset
      (List.cons_subset.mpr ⟨List.mem_map_of_mem hy, hsub⟩)
    rw [List.length_cons, List.length_map, List.length_map, h.1] at this
    exact Nat.not_succ_le_self _ this
  obtain ⟨x, hx, hxy⟩ := List.mem_map.mp hk
  obtain ⟨y', hy', hr⟩ := h.2 x hx
  have e : y' = y.2 := Option.some.inj (hy'.symm.trans (hxy ▸ assoc_of_mem nb hy))
  exact ⟨x.2, hxy ▸ assoc_of_mem na hx, hs x hx y hy (e ▸ hr)⟩

theorem MapRel.perm (pa : ca'.Perm ca) (pb : cb'.Perm cb) (nb : (cb.map (·.1)).Nodup)
    (h : MapRel R ca cb) : MapRel R ca' cb' :=
  ⟨by rw [pa.length_eq, pb.length_eq, h.1], fun x hx =>
    let ⟨y, hy, hr⟩ := h.2 x (pa.mem_iff.mp hx); ⟨y, (assoc_perm pb nb x.1).trans hy, hr⟩⟩

end Rel

/-- A step over an arbitrary `R`, not a fuel-free relation on values, because symmetry and
    transitivity of `valEq` hold at every fuel, sufficient or not. -/
def NodeEq (R : GVal → GVal → Prop) (a b : GObj) : Prop :=
  (a.kind = b.kind ∧ a.ty = b.ty ∧ a.bk = b.bk) ∧
    (a.kind = .opaque ∨
      if a.seqLike then SeqRel R (childrenWithDefaults a) (childrenWithDefaults b)
      else MapRel R (childrenWithDefaults a) (childrenWithDefaults b))

section NodeEq
variable {R R' R'' : GVal → GVal → Prop} {a b c : GObj}

theorem NodeEq.imp (h : NodeEq R a b)
    (hi : ∀ x ∈ childrenWithDefaults a, ∀ y ∈ childrenWithDefaults b, R x.2 y.2 → R' x.2 y.2) :
    NodeEq R' a b := by
  refine ⟨h.1, h.2.imp_right ?_⟩
  cases a.seqLike with
  | true => exact (SeqRel.imp · hi)
  | false => exact (MapRel.imp · hi)

theorem NodeEq.same (nd : ((childrenWithDefaults a).map (·.1)).Nodup)
    (h : ∀ x ∈ childrenWithDefaults a, R x.2 x.2) : NodeEq R a a := by
  refine ⟨⟨rfl, rfl, rfl⟩, .inr ?_⟩
  cases a.seqLike with
  | true => exact SeqRel.same h
  | false => exact MapRel.same nd h

theorem NodeEq.symm (na : ((childrenWithDefaults a).map (·.1)).Nodup)
    (nb : ((childrenWithDefaults b).map (·.1)).Nodup) (h : NodeEq R a b)
    (hs : ∀ x ∈ childrenWithDefaults a, ∀ y ∈ childrenWithDefaults b, R x.2 y.2 → R' y.2 x.2) :
    NodeEq R' b a := by
  obtain ⟨⟨hk, ht, hb⟩, h⟩ := h
  refine ⟨⟨hk.symm, ht.symm, hb.symm⟩, ?_⟩
  rw [← hk, ← GObj.seqLike_congr hk]
  refine h.imp_right ?_
  cases a.seqLike with
  | true => exact (SeqRel.symm · hs)
  | false => exact (MapRel.symm na nb · hs)

theorem NodeEq.trans (h : NodeEq R a b) (h' : NodeEq R' b c)
    (ht : ∀ u v w, R u v → R' v w → R'' u w) : NodeEq R'' a c := by
  obtain ⟨⟨hk, hty, hb⟩, h⟩ := h
  obtain ⟨⟨hk', hty', hb'⟩, h'⟩ := h'
  rw [← hk, ← GObj.seqLike_congr hk] at h'
  refine ⟨⟨hk.trans hk', hty.trans hty', hb.trans hb'⟩, h.elim .inl fun h => h'.imp_right ?_⟩
  revert h
  cases a.seqLike with
  | true => exact (SeqRel.trans · · ht)
  | false => exact (MapRel.trans · · fun _ _ _ _ _ _ => ht _ _ _)

/-- Sequences too, read by key: the shape `NodeOK` has. -/
theorem NodeEq.mapRel (nb : ((childrenWithDefaults b).map (·.1)).Nodup) (h : NodeEq R a b)
    (hop : a.kind ≠ .opaque) : MapRel R (childrenWithDefaults a) (childrenWithDefaults b) := by
  have h := h.2.resolve_left hop
  revert h
  cases a.seqLike with
  | false => exact id
  | true =>
    refine fun h => ⟨h.1, fun x hx => ?_⟩
    obtain ⟨y, hy, hk, hr⟩ := h.partner hx
    exact ⟨y.2, hk ▸ assoc_of_mem nb hy, hr⟩

theorem NodeEq.of_cfg (h : NodeEq R a b) (hk : a.kind = .cfg) :
    MapRel R (childrenWithDefaults a) (childrenWithDefaults b) := by
  have h := h.2.resolve_left (by rw [hk]; decide)
  rwa [if_neg (GObj.seqLike_not_cfg · hk)] at h

end NodeEq

@[simp] theorem valEq_atom_atom (h1 h2 : Heap) (f : Nat) (s t : String) :
    valEq h1 h2 f (.atom s) (.atom t) = (s == t) := by cases f <;> rfl
theorem valEq_atom_self (h1 h2 : Heap) (f : Nat) (s : String) :
    valEq h1 h2 f (.atom s) (.atom s) = true := by rw [valEq_atom_atom]; exact beq_self_eq_true s
@[simp] theorem valEq_atom_ref (h1 h2 : Heap) (f : Nat) (s : String) (j : Nat) :
    valEq h1 h2 f (.atom s) (.ref j) = false := by cases f <;> rfl
@[simp] theorem valEq_ref_atom (h1 h2 : Heap) (f : Nat) (i : Nat) (t : String) :
    valEq h1 h2 f (.ref i) (.atom t) = false := by cases f <;> rfl
@[simp] theorem valEq_zero_ref (h1 h2 : Heap) (i j : Nat) :
    valEq h1 h2 0 (.ref i) (.ref j) = false := rfl

theorem valEq_ref_ref {h1 h2 : Heap} {f i j : Nat} :
    valEq h1 h2 (f + 1) (.ref i) (.ref j) = true ↔
      ∃ a b, h1[i]? = some a ∧ h2[j]? = some b ∧
        NodeEq (fun v w => valEq h1 h2 f v w = true) a b := by
  rw [valEq]
  cases h1[i]? with

  | none => simp
  | some a =>
    cases h2[j]? with
    | none => simp
    | some b =>
      have hd : (!(a.kind != b.kind || a.ty != b.ty || a.bk != b.bk)) = true ↔
          a.kind = b.kind ∧ a.ty = b.ty ∧ a.bk = b.bk := by simp [and_assoc]
      simp only [Option.some.injEq, exists_and_left, exists_eq_left']
      rw [Bool.if_false_left, Bool.decide_eq_true, Bool.and_eq_true, hd]
      refine and_congr_right fun hh => ?_
      by_cases hc : a.kind = .cfg
      · rw [if_neg (GObj.seqLike_not_cfg · hc), hc, or_iff_right nofun]
        exact mapRel_iff_all
      · rw [cwd_noncfg hc, cwd_noncfg (hh.1 ▸ hc)]
        unfold GObj.seqLike
        generalize a.kind = k at hc ⊢
        cases k <;> simp only [reduceCtorEq, false_or, true_or]
        case list | tuple | ntuple | custom => rw [if_pos (by decide)]; exact seqRel_iff_all
        case dict | ddict => rw [if_neg (by decide)]; exact mapRel_iff_all
        case cfg => exact absurd rfl hc

@[elab_as_elim]
theorem valEq_induct {h1 h2 : Heap} {motive : Nat → GVal → GVal → Prop}
    (atom : ∀ f s, motive f (.atom s) (.atom s))
    (node : ∀ f i j a b, h1[i]? = some a → h2[j]? = some b → NodeEq (motive f) a b →
      motive (f + 1) (.ref i) (.ref j)) :
    ∀ f v w, valEq h1 h2 f v w = true → motive f v w
  | f, .atom s, .atom t, h => by rw [valEq_atom_atom, beq_iff_eq] at h; exact h ▸ atom f s
  | f, .atom s, .ref j, h => by rw [valEq_atom_ref] at h; cases h
  | f, .ref i, .atom t, h => by rw [valEq_ref_atom] at h; cases h
  | 0, .ref i, .ref j, h => by cases h
  | f + 1, .ref i, .ref j, h => by
    obtain ⟨a, b, ha, hb, n⟩ := valEq_ref_ref.mp h
    exact node f i j a b ha hb (n.imp fun _ _ _ _ => valEq_induct atom node f _ _)

theorem valEq_refl {h : Heap} (wf : h.EqWF) :
    ∀ (f : Nat) (v : GVal), (∀ i, v = .ref i → i < f ∧ i < h.length) → valEq h h f v v = true
  | _, .atom _, _ => valEq_atom_self ..
  | 0, .ref i, hv => absurd (hv i rfl).1 (Nat.not_lt_zero _)
  | f + 1, .ref i, hv => by
    have ⟨hif, hil⟩ := hv i rfl
    have ha := List.getElem?_eq_getElem hil
    refine valEq_ref_ref.mpr ⟨_, _, ha, ha, NodeEq.same (wf.keys i _ ha) fun x hx => ?_⟩
    exact valEq_refl wf f x.2 fun k hk =>
      ⟨wf.child_lt ha hx hif k hk, Nat.lt_trans (wf.ch i _ ha x hx k hk) hil⟩

theorem valEq_of_fuel {h1 h2 : Heap} (w1 : h1.EqWF) {f : Nat} {v w : GVal}
    (e : valEq h1 h2 f v w = true) :
    ∀ f', (∀ i, v = .ref i → i < f') → valEq h1 h2 f' v w = true := by
  refine valEq_induct ?_ ?_ f v w e
  · exact fun _ _ _ _ => valEq_atom_self ..
  · intro _ i j a b ha hb n f' hf'
    obtain ⟨f', rfl⟩ := Nat.exists_eq_add_one_of_ne_zero (Nat.ne_zero_of_lt (hf' i rfl))
    exact valEq_ref_ref.mpr
      ⟨a, b, ha, hb, n.imp fun x hx _ _ e => e f' (w1.child_lt ha hx (hf' i rfl))⟩

theorem valEq_fuel (h1 h2 : Heap) (w1 : h1.EqWF) : ∀ (f f' : Nat) (v w : GVal),
    (∀ i, v = .ref i → i < f) → (∀ i, v = .ref i → i < f') →
    valEq h1 h2 f v w = valEq h1 h2 f' v w :=
  fun f f' _ _ hf hf' => Bool.eq_iff_iff.mpr
    ⟨fun e => valEq_of_fuel w1 e f' hf', fun e => valEq_of_fuel w1 e f hf⟩

theorem valEq_internable {h1 h2 : Heap} (w1 : h1.EqWF) (w2 : h2.EqWF) {f : Nat} {v w : GVal}
    (e : valEq h1 h2 f v w = true) :
    ∀ n m, (∀ i, v = .ref i → i < n) → (∀ j, w = .ref j → j < m) →
      isInternable h1 n v = isInternable h2 m w := by
  refine valEq_induct ?_ ?_ f v w e
  · intro _ s n m _ _; rw [isInternable_atom, isInternable_atom]
  · intro _ i j a b ha hb e n m hn hm
    obtain ⟨n, rfl⟩ := Nat.exists_eq_add_one_of_ne_zero (Nat.ne_zero_of_lt (hn i rfl))
    obtain ⟨m, rfl⟩ := Nat.exists_eq_add_one_of_ne_zero (Nat.ne_zero_of_lt (hm j rfl))
    simp only [isInternable, ha, hb, ← e.1.1]
    by_cases ht : a.kind = .tuple
    · have hc := e.2.resolve_left (by rw [ht]; decide)
      rw [if_pos (by simp [GObj.seqLike, ht])] at hc
      have := SeqRel.all_eq (hc.imp fun x hx y hy p =>
        p n m (w1.child_lt ha hx (hn i rfl)) (w2.child_lt hb hy (hm j rfl)))
      rw [cwd_noncfg (by rw [ht]; decide), cwd_noncfg (by rw [← e.1.1, ht]; decide)] at this
      rw [this]
    · rw [beq_eq_false_iff_ne.mpr ht, Bool.false_and, Bool.false_and]

theorem buildableEq_false_of_node {h1 h2 : Heap} {i j : Nat} {a b : GObj} (ha : h1[i]? = some a)
    (hb : h2[j]? = some b) (hn : ∀ R, ¬ NodeEq R a b) :
    buildableEq h1 h2 (.ref i) (.ref j) = false := by
  refine Bool.and_eq_false_imp.mpr fun h => ?_
  obtain ⟨a', b', ha', hb', n⟩ := valEq_ref_ref.mp h
  cases ha.symm.trans ha'; cases hb.symm.trans hb'
  exact absurd n (hn _)

end Fiddle
