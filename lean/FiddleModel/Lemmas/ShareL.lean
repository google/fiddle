/-
The sharing walk of `Buildable.__eq__` (`shareVisit`) characterised declaratively
(`shareVisit_iff`): the walk from `(v, w)` succeeds exactly when there is a one-to-one
correspondence `B` between objects of the two heaps that contains the pair `(v, w)` (unless it is
skipped) and is closed: paired objects, unless one is opaque, have the same keys and their
children under equal keys are again paired (or skipped).  The right-hand side mentions no
visiting order: the identity, the swapped and the same correspondence give reflexivity, symmetry
and invariance under the order of children.
-/
import FiddleModel.Model.Eq
import FiddleModel.Lemmas.EqL

namespace Fiddle

/-- The walk does not descend into (or record) a pair with an internable side. -/
def skipB (h1 h2 : Heap) (v w : GVal) : Bool :=
  isInternable h1 (h1.length + 1) v || isInternable h2 (h2.length + 1) w

structure ShareSt.Inv (st : ShareSt) : Prop where
  inv : st.yToX = st.xToY.map Prod.swap
  nd1 : (st.xToY.map (·.1)).Nodup
  nd2 : (st.xToY.map (·.2)).Nodup

theorem ShareSt.inv_empty : ({} : ShareSt).Inv := ⟨rfl, .nil, .nil⟩

theorem mem_swap {m : List (Nat × Nat)} {i j : Nat} : (j, i) ∈ m.map Prod.swap ↔ (i, j) ∈ m := by
  refine ⟨fun h => ?_, fun h => List.mem_map.mpr ⟨_, h, rfl⟩⟩
  obtain ⟨⟨_, _⟩, hp, e⟩ := List.mem_map.mp h
  cases e
  exact hp

def ShareSt.push (st : ShareSt) (i j : Nat) : ShareSt :=
  { xToY := (i, j) :: st.xToY, yToX := (j, i) :: st.yToX }

section
variable {st : ShareSt} {i j : Nat}

theorem ShareSt.Inv.x_iff (hi : st.Inv) : assocGet st.xToY i = some j ↔ (i, j) ∈ st.xToY :=
  ⟨assoc_mem, assoc_of_mem hi.nd1⟩

theorem ShareSt.Inv.y_iff (hi : st.Inv) : assocGet st.yToX j = some i ↔ (i, j) ∈ st.xToY := by
  rw [hi.inv, ← mem_swap]
  exact ⟨assoc_mem, assoc_of_mem (by rw [List.map_map]; exact hi.nd2)⟩

theorem ShareSt.Inv.push (hi : st.Inv) (hx : assocGet st.xToY i = none)
    (hy : assocGet st.yToX j = none) : (st.push i j).Inv := by
  refine ⟨by simp [ShareSt.push, hi.inv], List.nodup_cons.mpr ⟨fun h => ?_, hi.nd1⟩,
    List.nodup_cons.mpr ⟨fun h => ?_, hi.nd2⟩⟩ <;> obtain ⟨p, hp, rfl⟩ := List.mem_map.mp h
  · cases hx.symm.trans (hi.x_iff.mpr hp)
  · cases hy.symm.trans (hi.y_iff.mpr hp)

end

/-- "`(v, w)` is taken care of by the correspondence `P`": skipped, or a recorded pair. -/
def Rec (h1 h2 : Heap) (P : List (Nat × Nat)) (v w : GVal) : Prop :=
  skipB h1 h2 v w = true ∨ ∃ i j, v = .ref i ∧ w = .ref j ∧ (i, j) ∈ P

section
variable {h1 h2 : Heap} {P P' : List (Nat × Nat)}

theorem Rec.mono {v w : GVal} (hs : ∀ p ∈ P, p ∈ P') (h : Rec h1 h2 P v w) : Rec h1 h2 P' v w :=
  h.imp_right fun ⟨i, j, hv, hw, hm⟩ => ⟨i, j, hv, hw, hs _ hm⟩

theorem Rec.atom_left (h1 h2 : Heap) (P : List (Nat × Nat)) (s : String) (w : GVal) :
    Rec h1 h2 P (.atom s) w :=
  .inl (by rw [skipB, isInternable_atom, Bool.true_or])

theorem Rec.atom_right (h1 h2 : Heap) (P : List (Nat × Nat)) (v : GVal) (t : String) :
    Rec h1 h2 P v (.atom t) :=
  .inl (by rw [skipB, isInternable_atom, Bool.or_true])

theorem Rec.mem {i j : Nat} (h : Rec h1 h2 P (.ref i) (.ref j))
    (hs : ¬skipB h1 h2 (.ref i) (.ref j) = true) : (i, j) ∈ P := by
  obtain h | ⟨_, _, e1, e2, hm⟩ := h
  · exact absurd h hs
  · cases e1; cases e2; exact hm

end

/-- The last disjunct is `MapRel (Rec h1 h2 P)` of the two `childrenWithDefaults`, unfolded. -/
def NodeOK (h1 h2 : Heap) (P : List (Nat × Nat)) (i j : Nat) : Prop :=
  ∃ a b, h1[i]? = some a ∧ h2[j]? = some b ∧
    (a.kind = .opaque ∨ b.kind = .opaque ∨
      ((childrenWithDefaults a).length = (childrenWithDefaults b).length ∧
        ∀ x ∈ childrenWithDefaults a, ∃ y, lookupChild (childrenWithDefaults b) x.1 = some y ∧
          Rec h1 h2 P x.2 y))

section
variable {h1 h2 : Heap} {P P' : List (Nat × Nat)} {i j : Nat}

theorem NodeOK.mono (hs : ∀ p ∈ P, p ∈ P') (h : NodeOK h1 h2 P i j) : NodeOK h1 h2 P' i j := by
  obtain ⟨a, b, ha, hb, h⟩ := h
  exact ⟨a, b, ha, hb, h.imp_right (Or.imp_right (MapRel.imp · fun _ _ _ _ r => r.mono hs))⟩

theorem NodeOK.mapRel {a b : GObj} (h : NodeOK h1 h2 P i j) (ha : h1[i]? = some a)
    (hb : h2[j]? = some b) (hop : ¬(a.kind = .opaque ∨ b.kind = .opaque)) :
    MapRel (Rec h1 h2 P) (childrenWithDefaults a) (childrenWithDefaults b) := by
  obtain ⟨a', b', ha', hb', hok⟩ := h
  cases ha.symm.trans ha'; cases hb.symm.trans hb'
  exact (or_assoc.mpr hok).resolve_left hop

end

structure VisitOK (h1 h2 : Heap) (st st' : ShareSt) (v w : GVal) : Prop where
  inv : st'.Inv
  mono : ∀ p ∈ st.xToY, p ∈ st'.xToY
  recd : Rec h1 h2 st'.xToY v w
  closed : ∀ p ∈ st'.xToY, p ∉ st.xToY → NodeOK h1 h2 st'.xToY p.1 p.2

structure FoldOK (h1 h2 : Heap) (cb : List (PElem × GVal)) (st st' : ShareSt)
    (cs : List (PElem × GVal)) : Prop where
  inv : st'.Inv
  mono : ∀ p ∈ st.xToY, p ∈ st'.xToY
  recs : ∀ x ∈ cs, ∃ y, lookupChild cb x.1 = some y ∧ Rec h1 h2 st'.xToY x.2 y
  closed : ∀ p ∈ st'.xToY, p ∉ st.xToY → NodeOK h1 h2 st'.xToY p.1 p.2

section
variable {h1 h2 : Heap}

theorem VisitOK.same {st : ShareSt} {v w : GVal} (hi : st.Inv) (hr : Rec h1 h2 st.xToY v w) :
    VisitOK h1 h2 st st v w :=
  ⟨hi, fun _ hp => hp, hr, fun _ hp hn => absurd hp hn⟩

theorem FoldOK.nil {cb : List (PElem × GVal)} {st : ShareSt} (hi : st.Inv) :
    FoldOK h1 h2 cb st st [] :=
  ⟨hi, fun _ hp => hp, fun _ hx => (by cases hx), fun _ hp hn => absurd hp hn⟩

theorem VisitOK.enter {st st' : ShareSt} {i j : Nat} {cb cs : List (PElem × GVal)}
    (hf : FoldOK h1 h2 cb (st.push i j) st' cs)
    (hn : NodeOK h1 h2 st'.xToY i j) : VisitOK h1 h2 st st' (.ref i) (.ref j) := by
  refine ⟨hf.inv, fun p hp => hf.mono p (List.mem_cons_of_mem _ hp),
    .inr ⟨i, j, rfl, rfl, hf.mono _ List.mem_cons_self⟩, fun p hp hn' => ?_⟩
  by_cases hpe : p = (i, j)
  · exact hpe ▸ hn
  · exact hf.closed p hp fun hm => (List.mem_cons.mp hm).elim hpe hn'

/-- The step of the fold over the children, spelt as `shareVisit` unfolds to it. -/
def shareStep (h1 h2 : Heap) (fuel : Nat) (cb : List (PElem × GVal)) :
    Option ShareSt → PElem × GVal → Option ShareSt :=
  fun acc x =>
    match acc with
    | none => none
    | some st =>
      match lookupChild cb x.1 with
      | none => none
      | some y => shareVisit h1 h2 fuel x.2 y st

/-- Arbitrary accumulator: the induction hypothesis then says that the first step succeeded. -/
theorem fold_sound {fuel : Nat} {cb : List (PElem × GVal)}
    (ih : ∀ (x : PElem × GVal) (st : ShareSt) (y : GVal) (st' : ShareSt), st.Inv →
      shareVisit h1 h2 fuel x.2 y st = some st' → VisitOK h1 h2 st st' x.2 y)
    {cs : List (PElem × GVal)} {acc : Option ShareSt} {st' : ShareSt}
    (h : cs.foldl (shareStep h1 h2 fuel cb) acc = some st') :
    ∃ st, acc = some st ∧ (st.Inv → FoldOK h1 h2 cb st st' cs) := by
  induction cs generalizing acc with
  | nil => exact ⟨_, h, .nil⟩
  | cons x r ihr =>
    obtain ⟨st1, hs, f2⟩ := ihr h
    revert hs
    fun_cases shareStep h1 h2 fuel cb acc x
    case case3 st y hl =>
      refine fun hv => ⟨st, rfl, fun hi => ?_⟩
      have v1 := ih x st y st1 hi hv
      have f2 := f2 v1.inv
      refine ⟨f2.inv, fun p hp => f2.mono p (v1.mono p hp),
        List.forall_mem_cons.mpr ⟨⟨y, hl, v1.recd.mono f2.mono⟩, f2.recs⟩, fun p hp hn => ?_⟩
      by_cases h1p : p ∈ st1.xToY
      · exact (v1.closed p h1p hn).mono f2.mono
      · exact f2.closed p hp h1p
    all_goals nofun

theorem shareVisit_sound {fuel : Nat} {v w : GVal} {st st' : ShareSt} (hi : st.Inv)
    (h : shareVisit h1 h2 fuel v w st = some st') : VisitOK h1 h2 st st' v w := by
  fun_induction shareVisit h1 h2 fuel v w st generalizing st'
  case case1 => cases h; exact .same hi (.atom_left ..)
  case case2 => cases h; exact .same hi (.atom_right ..)
  case case4 hs => cases h; exact .same hi (.inl hs)
  case case9 hy hx he =>                                                -- already paired
    cases h
    exact .same hi (.inr ⟨_, _, rfl, rfl, eq_of_beq (Bool.and_eq_true_iff.mp he).1 ▸ assoc_mem hx⟩)
  case case5 _ hy hx _ a b hb ha hop =>                                 -- new, one side opaque
    cases h
    have hop : a.kind = .opaque ∨ b.kind = .opaque := by simpa using hop
    exact .enter (.nil (cb := []) (hi.push hx hy)) ⟨a, b, ha, hb, hop.imp_right .inl⟩
  case case7 _ hy hx _ a b hb ha hop _ _ hlen ih =>                     -- new, children visited
    obtain ⟨_, ⟨⟩, hf⟩ := fold_sound ih h
    have hf := hf (hi.push hx hy)
    exact .enter hf ⟨a, b, ha, hb, .inr (.inr ⟨by simpa using hlen, hf.recs⟩)⟩
  all_goals cases h

end

structure Corr (h1 h2 : Heap) (B : List (Nat × Nat)) : Prop where
  fun1 : ∀ i j j', (i, j) ∈ B → (i, j') ∈ B → j = j'
  fun2 : ∀ i i' j, (i, j) ∈ B → (i', j) ∈ B → i = i'
  closed : ∀ p ∈ B, NodeOK h1 h2 B p.1 p.2

/-- What every visit keeps if `B` is a `Corr`: the invariant of `shareVisit_complete`. -/
structure ShareSt.PartOf (st : ShareSt) (B : List (Nat × Nat)) : Prop where
  inv : st.Inv
  sub : ∀ p ∈ st.xToY, p ∈ B

section
variable {h1 h2 : Heap} {B : List (Nat × Nat)}

theorem ShareSt.PartOf.push {st : ShareSt} (hst : st.PartOf B) {i j : Nat} (hij : (i, j) ∈ B)
    (hx : assocGet st.xToY i = none) (hy : assocGet st.yToX j = none) : (st.push i j).PartOf B :=
  ⟨hst.inv.push hx hy, fun p hp => (List.mem_cons.mp hp).elim (· ▸ hij) (hst.sub p)⟩

theorem Corr.lookups (hB : Corr h1 h2 B) {st : ShareSt} (hst : st.PartOf B) {i j : Nat}
    (hij : (i, j) ∈ B) :
    assocGet st.xToY i = none ∧ assocGet st.yToX j = none ∨
      assocGet st.xToY i = some j ∧ assocGet st.yToX j = some i := by
  have hi := hst.inv
  cases hx : assocGet st.xToY i with
  | some j' =>
    have hm := hi.x_iff.mp hx
    cases hB.fun1 _ _ _ (hst.sub _ hm) hij
    exact .inr ⟨rfl, hi.y_iff.mpr hm⟩
  | none =>
    cases hy : assocGet st.yToX j with
    | none => exact .inl ⟨rfl, rfl⟩
    | some i' =>
      have hm := hi.y_iff.mp hy
      cases hB.fun2 _ _ _ (hst.sub _ hm) hij
      cases hx.symm.trans (hi.x_iff.mpr hm)

theorem shareVisit_complete (w1 : h1.EqWF) (hB : Corr h1 h2 B) {fuel : Nat} {v w : GVal}
    (hrec : Rec h1 h2 B v w) (hf : ∀ i, v = .ref i → i < fuel) (st : ShareSt) (hst : st.PartOf B) :
    ∃ st', shareVisit h1 h2 fuel v w st = some st' ∧ st'.PartOf B := by
  fun_induction shareVisit h1 h2 fuel v w st
  case case1 | case2 | case4 | case9 => exact ⟨_, rfl, hst⟩
  case case3 v _ _ hv _ =>
    cases v with
    | atom s => exact (hv s rfl).elim
    | ref i => exact absurd (hf i rfl) (Nat.not_lt_zero _)
  case case5 hsk hy hx _ _ _ _ _ _ =>                                   -- new, one side opaque
    exact ⟨_, rfl, hst.push (hrec.mem hsk) hx hy⟩
  case case7 hsk hy hx _ a b hb ha hop _ _ _ ih =>                      -- new, children visited
    have hij := hrec.mem hsk
    have m := (hB.closed _ hij).mapRel ha hb (by simpa using hop)
    refine foldl_inv (fun acc => ∃ st' : ShareSt, acc = some st' ∧ st'.PartOf B)
      ⟨_, rfl, hst.push hij hx hy⟩ ?_
    rintro _ ⟨st1, rfl, hst1⟩ x hx
    obtain ⟨y, hy, hr⟩ := m.2 x hx
    rw [hy]
    exact ih x st1 y hr (w1.child_lt ha hx (hf _ rfl)) hst1
  case case6 hsk _ _ a b hb ha hop _ _ hlen =>                          -- lengths differ
    have m := (hB.closed _ (hrec.mem hsk)).mapRel ha hb (by simpa using hop)
    exact absurd m.1 (by simpa using hlen)
  case case8 hsk _ _ hno =>                                             -- an object is missing
    obtain ⟨a, b, ha, hb, _⟩ := hB.closed _ (hrec.mem hsk)
    exact (hno a b ha hb).elim
  case case10 hsk _ _ hy hx hne =>                                      -- paired otherwise
    rcases hB.lookups hst (hrec.mem hsk) with ⟨ex, _⟩ | ⟨ex, ey⟩
    · cases ex.symm.trans hx
    · cases ex.symm.trans hx; cases ey.symm.trans hy
      simp at hne
  case case11 hsk hnn hss =>                                            -- half recorded
    rcases hB.lookups hst (hrec.mem hsk) with ⟨ex, ey⟩ | ⟨ex, ey⟩
    · exact (hnn ex ey).elim
    · exact (hss _ _ ex ey).elim

end

section
variable {h1 h2 : Heap}

theorem VisitOK.corr {st : ShareSt} {v w : GVal} (ok : VisitOK h1 h2 {} st v w) :
    Corr h1 h2 st.xToY := by
  have hi := ok.inv
  refine ⟨fun i j j' h h' => ?_, fun i i' j h h' => ?_, fun p hp => ok.closed p hp List.not_mem_nil⟩
  · exact Option.some.inj ((hi.x_iff.mpr h).symm.trans (hi.x_iff.mpr h'))
  · exact Option.some.inj ((hi.y_iff.mpr h).symm.trans (hi.y_iff.mpr h'))

theorem shareVisit_iff (w1 : h1.EqWF) {fuel : Nat} {v w : GVal} (hr : ∀ i, v = .ref i → i < fuel) :
    (shareVisit h1 h2 fuel v w {}).isSome = true ↔ ∃ B, Corr h1 h2 B ∧ Rec h1 h2 B v w := by
  constructor
  · intro h
    obtain ⟨st', hs⟩ := Option.isSome_iff_exists.mp h
    have ok := shareVisit_sound ShareSt.inv_empty hs
    exact ⟨st'.xToY, ok.corr, ok.recd⟩
  · rintro ⟨B, hB, hrec⟩
    obtain ⟨st', hs, _⟩ := shareVisit_complete w1 hB hrec hr {}
      ⟨ShareSt.inv_empty, fun _ hp => nomatch hp⟩
    rw [hs]; rfl

theorem buildableEq_iff (w1 : h1.EqWF) {r1 r2 : GVal} (hr : ∀ i, r1 = .ref i → i < h1.length) :
    buildableEq h1 h2 r1 r2 = true ↔ valEq h1 h2 (h1.length + h2.length + 2) r1 r2 = true ∧
      ∃ B, Corr h1 h2 B ∧ Rec h1 h2 B r1 r2 :=
  Bool.and_eq_true_iff.trans (and_congr_right' (shareVisit_iff w1 (ref_lt_mono hr (by omega))))

theorem Rec.swap {B : List (Nat × Nat)} {v w : GVal} (h : Rec h1 h2 B v w) :
    Rec h2 h1 (B.map Prod.swap) w v := by
  rcases h with h | ⟨i, j, rfl, rfl, hm⟩
  · exact .inl ((Bool.or_comm ..).trans h)
  · exact .inr ⟨j, i, rfl, rfl, mem_swap.mpr hm⟩

theorem Corr.swap (w1 : h1.EqWF) (w2 : h2.EqWF) {B : List (Nat × Nat)}
    (h : Corr h1 h2 B) : Corr h2 h1 (B.map Prod.swap) := by
  refine ⟨fun j i i' a b => h.fun2 i i' j (mem_swap.mp a) (mem_swap.mp b),
    fun j j' i a b => h.fun1 i j j' (mem_swap.mp a) (mem_swap.mp b), fun p hp => ?_⟩
  obtain ⟨q, hq, rfl⟩ := List.mem_map.mp hp
  obtain ⟨a, b, ha, hb, hok⟩ := h.closed q hq
  exact ⟨b, a, hb, ha, (or_left_comm.mp hok).imp_right (Or.imp_right
    (MapRel.symm (w1.keys _ a ha) (w2.keys _ b hb) · fun _ _ _ _ r => r.swap))⟩

theorem Corr.refl {h : Heap} (wf : h.EqWF) :
    Corr h h ((List.range h.length).map fun i => (i, i)) := by
  have diag : ∀ {i j}, (i, j) ∈ (List.range h.length).map (fun i => (i, i)) → i = j := by
    intro i j hp
    obtain ⟨k, _, e⟩ := List.mem_map.mp hp
    cases e
    rfl
  refine ⟨fun i j j' a b => (diag a).symm.trans (diag b),
    fun i i' j a b => (diag a).trans (diag b).symm, fun p hp => ?_⟩
  obtain ⟨i, hi, rfl⟩ := List.mem_map.mp hp
  have hi := List.mem_range.mp hi
  have ha := List.getElem?_eq_getElem hi
  refine ⟨_, _, ha, ha, .inr (.inr (MapRel.same (wf.keys i _ ha) fun x hx => ?_))⟩
  cases hx2 : x.2 with
  | atom s => exact .atom_left ..
  | ref k =>
    exact .inr ⟨k, k, rfl, rfl, List.mem_map.mpr
      ⟨k, List.mem_range.mpr (Nat.lt_trans (wf.ch i _ ha x hx k hx2) hi), rfl⟩⟩

end

end Fiddle
