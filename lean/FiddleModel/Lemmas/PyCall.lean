/-
`pyCall` (CPython's argument binding). A call that binds (`pyCall_ok`, the closed forms of its two
loops): every positional argument that meets a positional parameter is what that parameter
receives, the excess is exactly `*args`; every keyword naming a keyword-capable parameter is what
that parameter receives, the others are exactly `**kwargs`. A call that cannot bind raises: excess
positional arguments without `*args`, an unknown keyword without `**kwargs`. `buildCall_ok`: the
stages of a successful `buildCall`, ending in `pyCall`.
-/
import FiddleModel.Model.Call
import FiddleModel.Lemmas.Basic

namespace Fiddle
open Sig

theorem mem_namedParams {s : Sig} {p : Param} :
    p ∈ s.namedParams ↔ p ∈ s ∧ (p.kind = .po ∨ p.kind = .pk ∨ p.kind = .ko) := by
  simp [Sig.namedParams, List.mem_filter, or_assoc]

theorem mem_positionalParams {s : Sig} {p : Param} :
    p ∈ s.positionalParams ↔ p ∈ s ∧ (p.kind = .po ∨ p.kind = .pk) := by
  simp [Sig.positionalParams, List.mem_filter]

theorem isKwParam_iff {s : Sig} {n : String} :
    s.isKwParam n = true ↔ ∃ p ∈ s, p.name = n ∧ (p.kind = .pk ∨ p.kind = .ko) := by
  simp only [Sig.isKwParam, List.any_eq_true, Bool.and_eq_true, Bool.or_eq_true, beq_iff_eq]

/-- A name already bound is rejected, so each keyword that names a keyword-capable parameter is
    afterwards THE binding of its name (last conjunct). -/
theorem pyCall_kwLoop_ok {s : Sig} {kws named extra named' extra' : List (String × Val)}
    (h : pyCall.kwLoop s kws named extra = .ok (named', extra')) :
    named' = named ++ kws.filter (fun kv => s.isKwParam kv.1) ∧
    extra' = extra ++ kws.filter (fun kv => !s.isKwParam kv.1) ∧
    ∀ kv ∈ kws, s.isKwParam kv.1 = true → named'.find? (fun x => x.1 == kv.1) = some kv := by
  fun_induction pyCall.kwLoop s kws named extra
  case case1 => cases h; exact ⟨by simp, by simp, fun _ hm => nomatch hm⟩
  case case3 n v r named extra hkw hany ih =>
    obtain ⟨e1, e2, e3⟩ := ih h
    refine ⟨by simp [e1, hkw], by simp [e2, hkw], List.forall_mem_cons.mpr ⟨fun _ => ?_, e3⟩⟩
    -- `n` was not bound before, so `(n, v)` is its first binding
    have hnone : named.find? (fun x => x.1 == n) = none :=
      List.find?_eq_none.mpr (List.any_eq_false.mp (Bool.eq_false_iff.mpr hany))
    rw [e1, List.append_assoc, List.find?_append, hnone, Option.none_or, List.singleton_append]
    exact List.find?_cons_of_pos (beq_self_eq_true n)
  case case4 hkw _ ih =>
    obtain ⟨e1, e2, e3⟩ := ih h
    exact ⟨by simp [e1, hkw], by simp [e2, hkw],
      List.forall_mem_cons.mpr ⟨fun hk => absurd hk hkw, e3⟩⟩
  all_goals cases h

theorem pyCall_fill_ok {named acc slots : List (String × Val)} {ps : List Param}
    (h : pyCall.fill named ps acc = .ok slots) :
    slots = acc ++ ps.map (fun p => (p.name, (assoc named p.name).getD (Sig.dfltVal p))) := by
  fun_induction pyCall.fill named ps acc
  case case1 => cases h; simp
  case case2 hkv ih => simp [ih h, assoc, hkv]
  case case3 hnone _ ih => simp [ih h, assoc, hnone]
  case case4 => cases h

theorem pyCall_ok {s : Sig} {args : List Val} {kws : List (String × Val)} {b : Binding}
    (h : pyCall s args kws = .ok b) :
    ∃ named,
      pyCall.kwLoop s kws ((s.positionalParams.zip args).map (fun (p, v) => (p.name, v))) []
        = .ok (named, b.kw) ∧
      pyCall.fill named s.namedParams [] = .ok b.slots ∧
      b.var = args.drop s.positionalParams.length := by
  revert h
  fun_cases pyCall s args kws
  case case4 hk _ hf => rintro ⟨⟩; exact ⟨_, hk, hf, rfl⟩
  all_goals nofun

/-- `C01_callable_receives_positionals` for any call, not only the one `build` forms. -/
theorem pyCall_positional {s : Sig} (hs : (s.positionalParams.map (·.name)).Nodup)
    {args : List Val} {kws : List (String × Val)} {b : Binding} (h : pyCall s args kws = .ok b) :
    b.var = args.drop s.positionalParams.length ∧
    b.slots.length = s.namedParams.length ∧
    ∀ p v, (p, v) ∈ s.positionalParams.zip args → (p.name, v) ∈ b.slots := by
  obtain ⟨named, hk, hf, hv⟩ := pyCall_ok h
  obtain ⟨e1, -, -⟩ := pyCall_kwLoop_ok hk
  rw [pyCall_fill_ok hf, List.nil_append]
  refine ⟨hv, List.length_map _, fun p v hpv => List.mem_map.mpr ?_⟩
  have hp := mem_positionalParams.mp (List.of_mem_zip hpv).1
  refine ⟨p, mem_namedParams.mpr ⟨hp.1, hp.2.imp_right .inl⟩, ?_⟩
  -- the positional bindings have distinct names, so `(p.name, v)` is the first binding of `p.name`
  rw [e1, assoc_append, assoc_of_mem (x := (p.name, v)) ?_ (List.mem_map.mpr ⟨(p, v), hpv, rfl⟩)]
  · rfl
  · simpa [Function.comp_def] using
      ((map_fst_zip_sublist s.positionalParams args).map Param.name).nodup hs

/-- `C01_callable_receives_keywords` for any call. -/
theorem pyCall_keywords {s : Sig} {args : List Val} {kws : List (String × Val)} {b : Binding}
    (h : pyCall s args kws = .ok b) :
    b.kw = kws.filter (fun kv => !s.isKwParam kv.1) ∧
    ∀ n v, (n, v) ∈ kws → s.isKwParam n = true → (n, v) ∈ b.slots := by
  obtain ⟨named, hk, hf, -⟩ := pyCall_ok h
  obtain ⟨-, e2, e3⟩ := pyCall_kwLoop_ok hk
  rw [pyCall_fill_ok hf, List.nil_append]
  refine ⟨e2, fun n v hm hkw => List.mem_map.mpr ?_⟩
  obtain ⟨p, hp, rfl, hkind⟩ := isKwParam_iff.mp hkw
  exact ⟨p, mem_namedParams.mpr ⟨hp, .inr hkind⟩, by rw [assoc, e3 (p.name, v) hm hkw]; rfl⟩

theorem pyCall_excess_rejected {s : Sig} {args : List Val} (kws : List (String × Val))
    (h : s.positionalParams.length < args.length) (hv : s.hasVp = false) :
    pyCall s args kws = .error .typeError := by
  rw [pyCall, List.isEmpty_eq_false_iff.mpr (mt List.drop_eq_nil_iff.mp (Nat.not_le.mpr h)), hv]
  rfl

theorem pyCall_kwLoop_unknown {s : Sig} {kws named extra : List (String × Val)} {n : String} {v : Val}
    (hm : (n, v) ∈ kws) (hk : s.isKwParam n = false) (hvk : s.hasVk = false) :
    pyCall.kwLoop s kws named extra = .error .typeError := by
  fun_induction pyCall.kwLoop s kws named extra
  case case1 => cases hm
  case case3 hkw _ ih =>
    exact ih ((List.mem_cons.mp hm).resolve_left fun e => by cases e; rw [hk] at hkw; cases hkw)
  case case4 hvk' ih => rw [hvk] at hvk'; cases hvk'
  all_goals rfl

theorem pyCall_unknown_keyword_rejected {s : Sig} (args : List Val) {kws : List (String × Val)}
    {n : String} {v : Val} (hm : (n, v) ∈ kws) (hk : s.isKwParam n = false) (hvk : s.hasVk = false) :
    pyCall s args kws = .error .typeError := by
  rw [pyCall, pyCall_kwLoop_unknown hm hk hvk]
  exact ite_self _

theorem buildCall_ok {s : Sig} {c : Cfg} {b : Binding} (h : buildCall s c = .ok b) :
    ∃ oa pos kw kws, c.orderedArguments s {} = .ok oa ∧
      s.toArgsKwargs oa false false = .ok (pos, kw) ∧ kwList kw = .ok kws ∧
      pyCall s pos kws = .ok b := by
  revert h
  fun_cases buildCall s c
  case case4 hoa _ _ hta _ hkl => exact fun h => ⟨_, _, _, _, hoa, hta, hkl, h⟩
  all_goals nofun

end Fiddle
