/-
Within the property's scope (`Elem.ok`) the printer of `Model/Paths.lean` is the total function
`flatMap render` (`pathStr_eq`); the rest speaks of that function.
-/
import FiddleModel.Model.Paths

namespace Fiddle.Paths

theorem ne_of_pred {α : Type} {p : α → Bool} {a : α} (ha : p a = true) (b : α) (hb : p b = false) :
    a ≠ b :=
  fun e => by rw [e, hb] at ha; cases ha

theorem span_run {p : Char → Bool} {l r : List Char} (hl : ∀ c ∈ l, p c = true)
    (hr : ∀ c ∈ r.head?, p c = false) : spanP p (l ++ r) = (l, r) := by
  induction l with
  | nil =>
    cases r with
    | nil => rfl
    | cons c r' => simp [spanP, hr c rfl]
  | cons a l ih =>
    obtain ⟨ha, hl⟩ := List.forall_mem_cons.mp hl
    simp [spanP, ha, ih hl]

theorem span_until {q : Char} {l r : List Char} (h : q ∉ l) :
    spanP (· != q) (l ++ q :: r) = (l, q :: r) :=
  span_run (fun c hc => bne_iff_ne.mpr fun e => h (e ▸ hc)) (by simp)

theorem isDigit_digitChar (d : Nat) : isDigit (digitChar d) = true := by
  fun_cases digitChar d <;> decide

theorem digitVal_digitChar : ∀ d, d < 10 → digitVal (digitChar d) = d := by decide

theorem digitChar_ne_zero : ∀ d, d < 10 → 0 < d → digitChar d ≠ '0' := by decide

theorem natRepr_ne_nil (n : Nat) : natRepr n ≠ [] := by
  fun_cases natRepr n <;> simp

theorem natRepr_digits (n : Nat) : ∀ c ∈ natRepr n, isDigit c = true := by
  fun_induction natRepr n with
  | case1 n h => exact List.forall_mem_singleton.mpr (isDigit_digitChar n)
  | case2 n h ih =>
    exact List.forall_mem_append.mpr ⟨ih, List.forall_mem_singleton.mpr (isDigit_digitChar _)⟩

theorem evalDigits_append (l : List Char) (c : Char) :
    evalDigits (l ++ [c]) = 10 * evalDigits l + digitVal c := by
  simp [evalDigits, List.foldl_append]

theorem evalDigits_natRepr (n : Nat) : evalDigits (natRepr n) = n := by
  fun_induction natRepr n with
  | case1 n h => simp [evalDigits, digitVal_digitChar n h]
  | case2 n h ih =>
    rw [evalDigits_append, ih, digitVal_digitChar _ (Nat.mod_lt _ (by decide))]
    exact Nat.div_add_mod n 10

theorem natRepr_head {n : Nat} (hn : 0 < n) : ∃ c r, natRepr n = c :: r ∧ c ≠ '0' := by
  fun_induction natRepr n with
  | case1 n h => exact ⟨digitChar n, [], rfl, digitChar_ne_zero n h hn⟩
  | case2 n h ih =>
    obtain ⟨c, r, e, hc⟩ := ih (Nat.div_pos (Nat.le_of_not_lt h) (by decide))
    exact ⟨c, r ++ [digitChar (n % 10)], by rw [e]; rfl, hc⟩

theorem evalInt_cons {c : Char} (r : List Char) (h : c ≠ '0') :
    evalInt (c :: r) = .ok (evalDigits (c :: r)) := by
  simp [evalInt, h]

theorem evalInt_natRepr (n : Nat) : evalInt (natRepr n) = .ok n := by
  by_cases hn : n = 0
  · subst hn; rw [natRepr, dif_pos (by decide)]; rfl
  · obtain ⟨c, r, e, hc⟩ := natRepr_head (Nat.pos_of_ne_zero hn)
    rw [e, evalInt_cons r hc, ← e, evalDigits_natRepr]

def keyChar (c : Char) : Prop := plainChar c = true ∨ c = '\\' ∨ c = '\n' ∨ c = '\r' ∨ c = '\t'

/-- The elements the property speaks of: attribute names are non-empty words; string keys are
    quote-free (and printable ASCII or `\\ \n \r \t`, the modelled part of `repr`). -/
def Elem.ok : Elem → Prop
  | .attr n => n ≠ [] ∧ ∀ c ∈ n, isWord c = true
  | .index _ => True
  | .key (.int _) => True
  | .key (.str s) => ∀ c ∈ s, keyChar c

/-- `=`-free (the override syntax splits at the first `=`). -/
def Elem.noEq : Elem → Prop
  | .key (.str s) => ∀ c ∈ s, c ≠ '='
  | _ => True

theorem escapeChar_plain {c : Char} (h : plainChar c = true) : escapeChar c = .ok [c] := by
  simp [escapeChar, ne_of_pred h '\\' rfl, ne_of_pred h '\n' rfl, ne_of_pred h '\r' rfl,
    ne_of_pred h '\t' rfl, h]

/-- `escapeChar` restricted to the characters in scope (`keyChar`), where it is total. -/
def esc (c : Char) : List Char :=
  match escapeChar c with
  | .ok a => a
  | _ => []

theorem escapeChar_eq {c : Char} (h : keyChar c) : escapeChar c = .ok (esc c) := by
  rcases h with h | rfl | rfl | rfl | rfl
  · rw [esc, escapeChar_plain h]
  all_goals rfl

theorem escape_eq {s : List Char} (h : ∀ c ∈ s, keyChar c) : escape s = .ok (s.flatMap esc) := by
  induction s with
  | nil => rfl
  | cons c r ih =>
    obtain ⟨hc, hr⟩ := List.forall_mem_cons.mp h
    rw [escape, escapeChar_eq hc, ih hr]; rfl

/-- `code` restricted to the elements in scope (`Elem.ok`), where it is total. -/
def render : Elem → List Char
  | .attr n => '.' :: n
  | .index n => '[' :: natRepr n ++ [']']
  | .key (.int n) => '[' :: natRepr n ++ [']']
  | .key (.str s) => '[' :: '\'' :: s.flatMap esc ++ ['\'', ']']

theorem code_eq {e : Elem} (h : e.ok) : code e = .ok (render e) := by
  fun_cases render e
  case case4 => rw [code, escape_eq h]
  all_goals rfl

theorem pathStr_eq {p : List Elem} (h : ∀ e ∈ p, e.ok) : pathStr p = .ok (p.flatMap render) := by
  induction p with
  | nil => rfl
  | cons e r ih =>
    obtain ⟨he, hr⟩ := List.forall_mem_cons.mp h
    rw [pathStr, code_eq he, ih hr]; rfl

theorem printed_eq {p : List Elem} (h : ∀ e ∈ p, e.ok) :
    printed p = .ok (if startsWithAttr p then (p.flatMap render).tail else p.flatMap render) := by
  rw [printed, pathStr_eq h]

theorem plain_toNat {c : Char} (h : plainChar c = true) : c.toNat ≠ 0 := by
  simp only [plainChar, Bool.and_eq_true, decide_eq_true_eq] at h; omega

theorem unescape_esc {c : Char} {t t' : List Char} (h : keyChar c) (ht : unescape t = .ok t') :
    unescape (esc c ++ t) = .ok (c :: t') := by
  rcases h with h | rfl | rfl | rfl | rfl
  · rw [esc, escapeChar_plain h, List.singleton_append, unescape.eq_def]
    simp [ne_of_pred h '\\' rfl, ne_of_pred h '\n' rfl, ne_of_pred h '\r' rfl, plain_toNat h, ht]
  all_goals simp [esc, escapeChar, unescape, ht]

theorem unescape_escaped {s : List Char} (h : ∀ c ∈ s, keyChar c) :
    unescape (s.flatMap esc) = .ok s := by
  induction s with
  | nil => rfl
  | cons c r ih =>
    obtain ⟨hc, hr⟩ := List.forall_mem_cons.mp h
    exact unescape_esc hc (ih hr)

theorem mem_escaped {x : Char} {s : List Char} (hs : ∀ c ∈ s, keyChar c) (h : x ∈ s.flatMap esc) :
    x ∈ s ∨ x ∈ ['\\', 'n', 'r', 't'] := by
  obtain ⟨c, hc, hx⟩ := List.mem_flatMap.mp h
  rcases hs c hc with hp | rfl | rfl | rfl | rfl
  · rw [esc, escapeChar_plain hp, List.mem_singleton] at hx
    exact .inl (hx ▸ hc)
  all_goals exact .inr ((by decide : ∀ x ∈ esc _, x ∈ ['\\', 'n', 'r', 't']) x hx)

theorem render_head (e : Elem) : ∃ c a, render e = c :: a ∧ isWord c = false := by
  fun_cases render e <;> exact ⟨_, _, rfl, by decide⟩

theorem scan_attr {n rest : List Char} (hne : n ≠ []) (hw : ∀ c ∈ n, isWord c = true)
    (hr : ∀ c ∈ rest.head?, isWord c = false) :
    scan ('.' :: n ++ rest) = .ok (.attr n, rest) := by
  obtain ⟨c, cs, rfl⟩ := List.exists_cons_of_ne_nil hne
  simp only [List.cons_append, scan, if_true]
  rw [scanAttr, ← List.cons_append, span_run hw hr]

theorem scan_int {ds rest : List Char} {n : Nat} (hne : ds ≠ [])
    (hd : ∀ c ∈ ds, isDigit c = true) (hn : evalInt ds = .ok n) :
    scan ('[' :: ds ++ [']'] ++ rest) = .ok (.key (.int n), rest) := by
  obtain ⟨c, cs, rfl⟩ := List.exists_cons_of_ne_nil hne
  have hc := hd c (List.mem_cons_self ..)
  simp only [List.cons_append, List.nil_append, List.append_assoc, scan, Char.reduceEq, if_false, if_true,
    ne_of_pred hc '\'' rfl, ne_of_pred hc '"' rfl]
  rw [scanDigits, ← List.cons_append, span_run hd (by rintro _ ⟨⟩; rfl)]
  simp only [if_true, hn]

theorem scan_str {body rest s : List Char} (hq : '\'' ∉ body) (hs : unescape body = .ok s) :
    scan ('[' :: '\'' :: body ++ ['\'', ']'] ++ rest) = .ok (.key (.str s), rest) := by
  simp only [List.cons_append, List.nil_append, List.append_assoc, scan, Char.reduceEq, if_false, if_true]
  rw [scanQuoted, span_until hq]
  simp only [and_self, if_true, hs]

theorem scan_render {e : Elem} {rest : List Char} (he : e.ok)
    (hb : ∀ c ∈ rest.head?, isWord c = false) :
    scan (render e ++ rest) = .ok (e.toParsed, rest) := by
  fun_cases render e
  case case1 => exact scan_attr he.1 he.2 hb
  case case2 n | case3 n =>
    exact scan_int (natRepr_ne_nil n) (natRepr_digits n) (evalInt_natRepr n)
  case case4 =>
    refine scan_str (fun hx => ?_) (unescape_escaped he)
    exact (mem_escaped he hx).elim (fun h => absurd (he _ h) (by unfold keyChar; decide))
      (by decide)

theorem head_rendered (p : List Elem) : ∀ c ∈ (p.flatMap render).head?, isWord c = false := by
  cases p with
  | nil => rintro _ ⟨⟩
  | cons e r =>
    obtain ⟨c, a, ha, hc⟩ := render_head e
    rw [List.flatMap_cons, ha]
    rintro _ ⟨⟩; exact hc

theorem parseFuel_scan {fuel : Nat} {cs rest : List Char} {e : PE} {es : List PE}
    (hs : scan cs = .ok (e, rest)) (hr : parseFuel fuel rest = .ok es) :
    parseFuel (fuel + 1) cs = .ok (e :: es) := by
  cases cs with
  | nil => cases hs
  | cons c cs => simp only [parseFuel, hs, hr]

theorem parseFuel_rendered {p : List Elem} {fuel : Nat} (hok : ∀ e ∈ p, e.ok)
    (hf : (p.flatMap render).length ≤ fuel) :
    parseFuel fuel (p.flatMap render) = .ok (p.map Elem.toParsed) := by
  induction p generalizing fuel with
  | nil => cases fuel <;> rfl
  | cons e r ih =>
    obtain ⟨he, hr⟩ := List.forall_mem_cons.mp hok
    obtain ⟨c, a, ha, -⟩ := render_head e
    rw [List.flatMap_cons, List.length_append, ha, List.length_cons] at hf
    cases fuel with
    | zero => omega
    | succ fuel => exact parseFuel_scan (scan_render he (head_rendered r)) (ih hr (by omega))

theorem reDot_word {c : Char} (r : List Char) (h : isWord c = true) :
    reDot (c :: r) = '.' :: c :: r := by
  rw [reDot]
  all_goals rintro _ ⟨⟩; cases h  -- `c` is neither `[` nor `.`

theorem reDot_printed {p : List Elem} (hne : p ≠ []) (hok : ∀ e ∈ p, e.ok) :
    reDot (if startsWithAttr p then (p.flatMap render).tail else p.flatMap render) =
      p.flatMap render := by
  obtain ⟨e, r, rfl⟩ := List.exists_cons_of_ne_nil hne
  rcases e with n | _ | _ | _
  · obtain ⟨hn, hw⟩ := hok _ (List.mem_cons_self ..)
    obtain ⟨c, cs, rfl⟩ := List.exists_cons_of_ne_nil hn
    exact reDot_word _ (hw c (List.mem_cons_self ..))
  all_goals rfl

theorem render_no_eq {e : Elem} (hok : e.ok) (hne : e.noEq) : '=' ∉ render e := by
  fun_cases render e
  case case1 n =>
    rintro (_ | ⟨_, h⟩)
    cases hok.2 _ h
  case case2 n | case3 n =>
    intro h
    have h : '=' ∈ natRepr n := by simpa using h
    cases natRepr_digits n _ h
  case case4 s =>
    intro h
    have h : '=' ∈ s.flatMap esc := by simpa [-List.mem_flatMap] using h
    exact (mem_escaped hok h).elim (hne _ · rfl) (by decide)

theorem splitAssign_append {t : List Char} (v : List Char) (h : '=' ∉ t) :
    splitAssign (t ++ '=' :: v) = some (t, v) := by
  rw [splitAssign, span_until h]
  rfl

end Fiddle.Paths
