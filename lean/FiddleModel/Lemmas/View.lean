/-
The positional view as a function of the store's lookups; it is `allPositional`, the list `cfg[:]`
shows before `__getitem__` replaces `NO_VALUE` entries by defaults.  In view mode
(include_pos_or_kw_in_args = include_no_value = True) the parameter loop of
`transform_to_args_kwargs` skips nothing and raises nothing: it shows one slot per positional
parameter (`viewSlots`), so an edit of the store at the key of one slot is a `List.set` on the view,
and inside the fixed prefix `index_to_key` finds that key.
-/
import FiddleModel.Lemmas.Dict
import FiddleModel.Lemmas.SliceBounds

namespace Fiddle
namespace Sig

/-- The key under which the positional parameter `p` at signature index `i` is stored. -/
def posKey (p : Param) (i : Nat) : Option Key :=
  match p.kind with
  | .po => some (.idx i)
  | .pk => some (.name p.name)
  | _ => none

def posKeys : List Param → Nat → List Key
  | [], _ => []
  | p :: ps, i =>
    match posKey p i with
    | some k => k :: posKeys ps (i + 1)
    | none => posKeys ps (i + 1)

/-- What the view shows for each positional parameter: the stored value, else the default
    found by `get_default(index)`, else `NO_VALUE`. -/
def viewSlots (s : Sig) (d : Dict Val) : List Param → Nat → List Val
  | [], _ => []
  | p :: ps, i =>
    match posKey p i with
    | some k => (d.get? k).getD ((s.getDefault (.idx i)).getD .nov) :: viewSlots s d ps (i + 1)
    | none => viewSlots s d ps (i + 1)

theorem posKeys_cons (p : Param) (ps : List Param) (i : Nat) :
    posKeys (p :: ps) i = (posKey p i).toList ++ posKeys ps (i + 1) := by
  simp only [posKeys]; cases posKey p i <;> rfl

theorem fillSkipped_nil (pos : List Val) : fillSkipped pos [] = .ok pos := rfl

/-- One round of the parameter loop, by storage key instead of by parameter kind: a parameter
    takes part unless it is positional-or-keyword and those are passed by keyword. -/
theorem taLoop_cons (s : Sig) (inclPk inclNo vp : Bool) (p : Param) (ps : List Param) (i : Nat)
    (pos : List Val) (rest : Dict Val) (sk : List Param) :
    taLoop s inclPk inclNo vp (p :: ps) i pos rest sk =
      match (if p.kind = .pk ∧ (inclPk || vp) = false then none else posKey p i) with
      | none => taLoop s inclPk inclNo vp ps (i + 1) pos rest sk
      | some k =>
        match rest.get? k with
        | some v =>
          match fillSkipped pos sk with
          | .ok pos' => taLoop s inclPk inclNo vp ps (i + 1) (pos' ++ [v]) (rest.del k) []
          | .error e => .error e
        | none =>
          if inclNo then
            taLoop s inclPk inclNo vp ps (i + 1) (pos ++ [(s.getDefault (.idx i)).getD .nov]) rest sk
          else taLoop s inclPk inclNo vp ps (i + 1) pos rest (sk ++ [p]) := by
  rw [taLoop, posKey]
  cases p.kind
  case pk => cases (inclPk || vp) <;> rfl
  all_goals rfl

theorem viewSlots_congr (s : Sig) {d d' : Dict Val} {ps : List Param} {i : Nat}
    (h : ∀ k ∈ posKeys ps i, d.get? k = d'.get? k) : viewSlots s d ps i = viewSlots s d' ps i := by
  fun_induction posKeys ps i
  case case1 => rfl
  case case2 hk ih =>
    rw [List.forall_mem_cons] at h
    simp only [viewSlots, hk, h.1, ih h.2]
  case case3 hk ih => simp only [viewSlots, hk, ih h]

theorem taLoop_rest {s : Sig} {a b vp : Bool} {ps : List Param} {i : Nat} {pos pos' : List Val}
    {rest rest' : Dict Val} {sk sk' : List Param}
    (h : taLoop s a b vp ps i pos rest sk = .ok (pos', rest', sk')) :
    rest'.Sublist rest ∧ ∀ k, k ∉ posKeys ps i → rest'.get? k = rest.get? k := by
  fun_induction taLoop s a b vp ps i pos rest sk
  case case1 => cases h; exact ⟨.refl _, fun _ _ => rfl⟩
  case case2 hkind _ _ _ _ ih | case6 hkind _ _ _ _ _ ih =>   -- key deleted
    refine ⟨(ih h).1.trans Dict.del_sublist, fun k hk => ?_⟩
    simp only [posKeys, posKey, hkind, List.mem_cons, not_or] at hk
    rw [(ih h).2 k hk.2, Dict.get?_del_other (Ne.symm hk.1)]
  case case3 | case7 => cases h
  all_goals   -- dict unchanged
    rename_i ih
    exact ⟨(ih h).1, fun k hk => (ih h).2 k fun hm => hk (posKeys_cons .. ▸ List.mem_append_right _ hm)⟩

theorem taLoop_view (s : Sig) (vp : Bool) {ps : List Param} {i : Nat} (pos : List Val) (rest : Dict Val)
    (hnd : (posKeys ps i).Nodup) :
    ∃ rest', taLoop s true true vp ps i pos rest [] = .ok (pos ++ viewSlots s rest ps i, rest', []) := by
  fun_induction posKeys ps i generalizing pos rest
  case case1 => exact ⟨rest, by rw [taLoop, viewSlots, List.append_nil]⟩
  case case2 p ps i k hk ih =>
    rw [List.nodup_cons] at hnd
    rw [taLoop_cons]
    simp only [Bool.true_or, Bool.true_eq_false, and_false, if_false, if_true, hk, viewSlots]
    cases rest.get? k with
    | none =>
      have h := ih (pos ++ [(s.getDefault (.idx i)).getD .nov]) rest hnd.2
      rwa [List.append_assoc] at h
    | some v =>
      -- `k` is deleted before the later slots are read; their keys are other ones (`hnd`)
      have h := ih (pos ++ [v]) (rest.del k) hnd.2
      rwa [List.append_assoc, viewSlots_congr s fun k' hk' =>
        Dict.get?_del_other fun e : k = k' => hnd.1 (e ▸ hk')] at h
  case case3 p ps i hk ih =>
    rw [taLoop_cons]
    simp only [Bool.true_or, Bool.true_eq_false, and_false, if_false, hk, viewSlots]
    exact ih pos rest hnd

/-- Contiguous `*args` entries `d[idx i], d[idx (i+1)], …`. -/
def varRun (d : Dict Val) : Nat → Nat → List Val
  | 0, _ => []
  | fuel + 1, i =>
    match d.get? (.idx i) with
    | some v => v :: varRun d fuel (i + 1)
    | none => []

theorem varRun_congr {d d' : Dict Val} (fuel i : Nat)
    (h : ∀ j : Nat, d.get? (.idx j) = d'.get? (.idx j)) : varRun d fuel i = varRun d' fuel i := by
  fun_induction varRun d fuel i
  case case1 => rfl
  case case2 hv ih => rw [varRun, ← h, hv, ih]
  case case3 hv => rw [varRun, ← h, hv]

theorem collectVar_run (d : Dict Val) (fuel i : Nat) (pos : List Val) (rest : Dict Val)
    (hag : ∀ j, i ≤ j → rest.get? (.idx j) = d.get? (.idx j)) :
    ∃ rest', collectVar fuel i pos rest [] = .ok (pos ++ varRun d fuel i, rest') := by
  fun_induction varRun d fuel i generalizing pos rest
  case case1 => exact ⟨rest, by rw [collectVar, List.append_nil]⟩
  case case2 fuel i v hv ih =>
    obtain ⟨rest', h1⟩ := ih (pos ++ [v]) (rest.del (.idx i)) fun j hj => by
      rw [Dict.get?_del_other fun e => Nat.ne_of_lt hj (Int.ofNat_inj.mp (Key.idx.inj e))]
      exact hag j (Nat.le_of_succ_le hj)
    exact ⟨rest', by
      simp only [collectVar, hag i (Nat.le_refl i), hv, fillSkipped_nil, h1, List.append_assoc,
        List.singleton_append]⟩
  case case3 fuel i hv =>
    exact ⟨rest, by simp only [collectVar, hag i (Nat.le_refl i), hv, List.append_nil]⟩

/-- What the positional view needs of a signature: the storage keys of the positional parameters
    are pairwise distinct (distinct names), and every positional-only parameter sits before `*args`.
    Both hold for every Python signature. -/
structure ViewWF (s : Sig) : Prop where
  keysNodup : (posKeys s 0).Nodup
  poBeforeVar : ∀ k ∈ posKeys s 0, ∀ st j, s.vpStart = some st → k = .idx (j : Nat) → j < st

theorem allPositional_eq {s : Sig} (d : Dict Val) (wf : ViewWF s) :
    s.allPositional d = viewSlots s d s 0 ++
      (match s.vpStart with
       | some st => varRun d d.length st
       | none => []) := by
  unfold allPositional toArgsKwargs
  extract_lets vp
  obtain ⟨rest, h⟩ := taLoop_view s vp [] d wf.keysNodup
  simp only [h, List.nil_append]
  cases hvs : s.vpStart with
  | none => exact (List.append_nil _).symm
  | some st =>
    -- the parameter loop has deleted no int key from `st` on: positional-only parameters sit before `*args`
    obtain ⟨rest', h⟩ := collectVar_run d d.length st (viewSlots s d s 0) rest fun j hj =>
      (taLoop_rest h).2 _ fun hmem => Nat.not_lt.mpr hj (wf.poBeforeVar _ hmem st j hvs rfl)
    simp only [h]

def viewWFB (s : Sig) : Bool :=
  decide (posKeys s 0).Nodup &&
  (match s.vpStart with
   | none => true
   | some st => (posKeys s 0).all (fun k => match k with
      | .idx j => decide (j < (st : Int))
      | .name _ => true))

theorem viewWF_of_viewWFB (s : Sig) (h : viewWFB s = true) : ViewWF s := by
  unfold viewWFB at h
  simp only [Bool.and_eq_true, decide_eq_true_eq] at h
  refine ⟨h.1, ?_⟩
  rintro k hk st j hs rfl
  rw [hs] at h
  exact Int.ofNat_lt.mp (of_decide_eq_true (List.all_eq_true.mp h.2 _ hk))

end Sig

open Sig

theorem Sig.viewSlots_length_eq (s : Sig) (d : Dict Val) (ps : List Param) (i : Nat) :
    (viewSlots s d ps i).length = (posKeys ps i).length := by
  fun_induction viewSlots s d ps i
  case case1 => rfl
  case case2 hk ih => simp only [posKeys, hk, List.length_cons, ih]
  case case3 hk ih => simp only [posKeys, hk, ih]

/-- `viewSlots s []`, what the empty store shows: the defaults, `NO_VALUE` where there is none. -/
theorem Sig.viewSlots_getElem? (s : Sig) (d : Dict Val) (ps : List Param) (i j : Nat) :
    (viewSlots s d ps i)[j]? =
      ((posKeys ps i)[j]?).map fun k => (d.get? k).getD ((viewSlots s [] ps i).getD j .nov) := by
  fun_induction viewSlots s d ps i generalizing j
  case case1 => rfl
  case case2 hk ih =>
    simp only [posKeys, viewSlots, hk]
    cases j with
    | zero => rfl
    | succ j => exact ih j
  case case3 hk ih => simp only [posKeys, viewSlots, hk]; exact ih j

/-- One statement for `Dict.set`, `Dict.del` and no edit at all: `d'` is any store with the same
    lookups off `k`. -/
theorem Sig.viewSlots_update (s : Sig) (d d' : Dict Val) {k : Key} {ps : List Param} {i j : Nat}
    (nd : (posKeys ps i).Nodup) (hj : (posKeys ps i)[j]? = some k)
    (hoth : ∀ k', k ≠ k' → d'.get? k' = d.get? k') :
    viewSlots s d' ps i =
      (viewSlots s d ps i).set j ((d'.get? k).getD ((viewSlots s [] ps i).getD j .nov)) := by
  apply List.ext_getElem?
  intro n
  rw [List.getElem?_set', viewSlots_getElem?, viewSlots_getElem? s d]
  by_cases hn : j = n
  · subst hn; rw [if_pos rfl, hj]; rfl
  · rw [if_neg hn]
    cases hk' : (posKeys ps i)[n]? with
    | none => rfl
    | some k' =>
      have hne : k ≠ k' := fun e =>
        hn ((List.getElem?_inj (List.getElem?_eq_some_iff.mp hj).1 nd).mp (by rw [hj, hk', e]))
      rw [Option.map_some, Option.map_some, hoth k' hne]

/-- Positions `0..m` of the signature are positional parameters (as in every Python signature with
    more than `m` positional parameters: they come first). -/
def PosUpTo (s : Sig) (m : Nat) : Prop :=
  ∀ j, j ≤ m → ∃ p, s[j]? = some p ∧ (p.kind = .po ∨ p.kind = .pk)

theorem Sig.posKey_positional {p : Param} (i : Nat) (h : p.kind = .po ∨ p.kind = .pk) :
    posKey p i = some (if p.kind == .pk then .name p.name else .idx i) := by
  unfold posKey
  rcases h with e | e <;> rw [e] <;> rfl

theorem Sig.posKeys_prefix {ps : List Param} (i0 : Nat) {i : Nat} (h : PosUpTo ps i) :
    (posKeys ps i0)[i]? = (ps[i]?).bind fun p => posKey p (i0 + i) := by
  induction ps generalizing i0 i with
  | nil => rfl
  | cons q ps ih =>
    obtain ⟨_, hq, hk⟩ := h 0 (Nat.zero_le _)
    cases hq
    simp only [posKeys, posKey_positional i0 hk]
    cases i with
    | zero => exact (posKey_positional i0 hk).symm
    | succ i =>
      rw [List.getElem?_cons_succ, List.getElem?_cons_succ,
        ih (i0 + 1) fun j hj => h (j + 1) (Nat.succ_le_succ hj), Nat.add_right_comm, Nat.add_assoc]

theorem Sig.indexToKey_param {s : Sig} {m : Nat} {p : Param} (d : Dict Val) (hp : s[m]? = some p) :
    s.indexToKey (m : Int) d = .ok (if p.kind == .pk then .name p.name else .idx m) := by
  have h0 : ¬ ((m : Int) < 0) := Int.not_lt.mpr (Int.natCast_nonneg m)
  have h1 : (m : Int) < (s.length : Int) := Int.ofNat_lt.mpr (List.getElem?_eq_some_iff.mp hp).1
  have h2 : ¬ ((m : Int) < -(s.length : Int)) := Int.not_lt.mpr (Int.neg_natCast_le_natCast _ m)
  simp only [indexToKey, h0, h1, h2, if_false, if_true, Py.getIdx_natCast, hp]
  split <;> rfl

theorem Sig.indexToKey_prefix {s : Sig} (d : Dict Val) {i : Nat} (hpre : PosUpTo s i) :
    ∃ k, s.indexToKey (i : Int) d = .ok k ∧ (posKeys s 0)[i]? = some k ∧ ∀ j : Nat, k = .idx j → j = i := by
  obtain ⟨p, hp, hkind⟩ := hpre i (Nat.le_refl i)
  have hkey := posKeys_prefix 0 hpre
  rw [hp, Option.bind_some, Nat.zero_add, posKey_positional i hkind] at hkey
  refine ⟨_, indexToKey_param d hp, hkey, fun j hj => ?_⟩
  split at hj
  · cases hj
  · exact (Int.ofNat_inj.mp (Key.idx.inj hj)).symm

end Fiddle
