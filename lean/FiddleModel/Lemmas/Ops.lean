/-
Every editing operation of the ArgStore model changes the state only through the two hooks
`Cfg.setValue` / `Cfg.delValue` (the model counterpart of "every write to `__arguments__` goes
through `_arguments_set_value` / `_arguments_del_value`"), so a predicate preserved by the hooks
(`Cfg.Closed`) is preserved by every operation.  An invariant is checked against five primitive
logged steps (`Cfg.ClosedCore`): the three the hooks are composed of, and the two entries that
`set_tags` and `update_callable` / the constructor log without a hook.  The file opens with what
one logged step does to each field of the state.
-/
import FiddleModel.Lemmas.Dict

namespace Fiddle

theorem log_args (c : Cfg) (k : Key) (h : HVal) : (c.log k h).args = c.args := by
  unfold Cfg.log; cases c.tracking <;> rfl
theorem log_tags (c : Cfg) (k : Key) (h : HVal) : (c.log k h).tags = c.tags := by
  unfold Cfg.log; cases c.tracking <;> rfl
theorem log_tracking (c : Cfg) (k : Key) (h : HVal) : (c.log k h).tracking = c.tracking := by
  unfold Cfg.log; split <;> rfl
theorem log_hist_on {c : Cfg} (k : Key) (h : HVal) (ht : c.tracking = true) :
    (c.log k h).hist = c.hist ++ [⟨c.ctr, k, h⟩] :=
  congrArg Cfg.hist (if_pos ht)
theorem log_off {c : Cfg} (k : Key) (h : HVal) (ht : c.tracking = false) : c.log k h = c :=
  if_neg (Bool.eq_false_iff.mp ht)

/-- The left-hand sides are the result of `addTag`, `removeTag` and `clearTags`. -/
theorem tags_written (c : Cfg) (key : Key) (ts : List Nat) (e : HVal) :
    (({ c with tags := c.tags.set key ts }).log key e).tagsOf key = ts ∧
      (({ c with tags := c.tags.set key ts }).log key e).args = c.args ∧
      ∀ k', key ≠ k' →
        (({ c with tags := c.tags.set key ts }).log key e).tags.get? k' = c.tags.get? k' := by
  refine ⟨?_, log_args .., fun k' hne => ?_⟩
  · rw [Cfg.tagsOf, log_tags, Dict.get?_set_same]; rfl
  · rw [log_tags]; exact Dict.get?_set_other hne

theorem setValue_plain (c : Cfg) (k : Key) {v : Val} (hv : ∀ ts i, v ≠ .tv ts i) :
    c.setValue k v = ({ c with args := c.args.set k v }).log k (.val v) := by
  cases v with
  | tv ts i => exact absurd rfl (hv ts i)
  | _ => rfl

/-- The op set of C03 / C16. -/
inductive Op
  | setAttr (n : String) (v : Val)
  | delAttr (n : String)
  | setItem (i : Int) (v : Val)
  | setSlice (k : Cfg.SliceK) (vals : List Val)
  | delItem (i : Int)
  | delSlice (k : Cfg.SliceK)

/-- An invalid edit raises and (by construction of `Except`) leaves the state as it was. -/
def Cfg.applyOp (s : Sig) (c : Cfg) : Op → Except Err Cfg
  | .setAttr n v => c.setAttr s n v
  | .delAttr n => c.delAttr s n
  | .setItem i v => c.setItem s i v
  | .setSlice k vals => c.setSlice s k vals
  | .delItem i => c.delItem s i
  | .delSlice k => c.delSlice s k

def Cfg.run (s : Sig) : Cfg → List Op → Cfg
  | c, [] => c
  | c, o :: r =>
    match c.applyOp s o with
    | .ok c' => Cfg.run s c' r
    | .error _ => Cfg.run s c r

namespace Cfg

structure Closed (P : Cfg → Prop) : Prop where
  set : ∀ {c k v}, P c → P (c.setValue k v)
  del : ∀ {c k c'}, c.delValue k = .ok c' → P c → P c'

structure ClosedCore (P : Cfg → Prop) : Prop where
  plain : ∀ {c : Cfg} {k : Key} {v : Val}, P c →
    P (({ c with args := c.args.set k v } : Cfg).log k (.val v))
  del : ∀ {c : Cfg} {k : Key}, P c → P (({ c with args := c.args.del k } : Cfg).log k .deleted)
  /-- `__argument_tags__[k] = ts` followed by `History.add_updated_tags(k, ts)` -/
  setTags : ∀ {c : Cfg} {k : Key} {ts : List Nat}, P c →
    P (({ c with tags := c.tags.set k ts } : Cfg).log k (.tags ts))
  /-- one more UPDATE_TAGS entry carrying the current tag set (`set_tags`' last step) -/
  logTags : ∀ {c : Cfg} {k : Key}, P c → P (c.log k (.tags (c.tagsOf k)))
  /-- the `__fn_or_cls__` entry of `update_callable` and of the constructor -/
  logFn : ∀ {c : Cfg}, P c → P (c.log (.name "__fn_or_cls__") (.val (.v 0)))

variable {P Q : Cfg → Prop}

theorem ClosedCore.and (hP : ClosedCore P) (hQ : ClosedCore Q) : ClosedCore (fun c => P c ∧ Q c) where
  plain h := ⟨hP.plain h.1, hQ.plain h.2⟩
  del h := ⟨hP.del h.1, hQ.del h.2⟩
  setTags h := ⟨hP.setTags h.1, hQ.setTags h.2⟩
  logTags h := ⟨hP.logTags h.1, hQ.logTags h.2⟩
  logFn h := ⟨hP.logFn h.1, hQ.logFn h.2⟩

theorem ClosedCore.of_log
    (h : ∀ {c : Cfg} {a t k e}, P c → P (({ c with args := a, tags := t } : Cfg).log k e)) :
    ClosedCore P where
  plain := h
  del := h
  setTags := h
  logTags := h
  logFn := h

variable {s : Sig} {c c' : Cfg}

theorem delValue_ok {k : Key} (h : c.delValue k = .ok c') :
    c.args.contains k = true ∧ c' = ({ c with args := c.args.del k } : Cfg).log k .deleted :=
  (ite_ok_iff.mp h).imp_right Eq.symm

/-- A TaggedValue assignment is a tag-set update (if it carries tags) followed by a plain
    assignment (if it carries a value). -/
theorem ClosedCore.toClosed (h : ClosedCore P) : Closed P where
  set {c k v} hc := by
    cases v with
    | tv ts inner =>
      have h1 : P (c.setValue k (.tv ts none)) := by
        show P (if ts.isEmpty then c else _)
        split
        · exact hc
        · exact h.setTags hc
      cases inner with
      | none => exact h1
      | some n => exact h.plain h1
    | _ => exact h.plain hc
  del hd hc := (delValue_ok hd).2 ▸ h.del hc

theorem setItem_ok {i : Int} {v : Val} (h : c.setItem s i v = .ok c') :
    ∃ k, s.indexToKey (if i < 0 then i + ((s.allPositional c.args).length : Int) else i) c.args = .ok k ∧
      c' = c.setValue k v := by
  revert h
  fun_cases setItem s c i v
  case case3 hk _ | case4 hk _ =>  -- an index key: the bound check stays an `if`
    exact fun h => ⟨_, hk, (Except.ok.inj (Except.of_ite_error h)).symm⟩
  case case5 hk => exact fun h => ⟨_, hk, (Except.ok.inj h).symm⟩
  all_goals nofun

-- The proofs below go along the branches of the model function (`fun_cases`, `fun_induction`);
-- the cases named are those with content (a hook is called, the function recurses or returns its
-- state); the others return an error and are closed together.
section
variable (hP : Closed P)
include hP

theorem setAttr_closed {n : String} {v : Val} (h : c.setAttr s n v = .ok c') (hc : P c) : P c' :=
  (ite_ok_iff.mp h).2 ▸ hP.set hc

theorem delAttr_closed {n : String} (h : c.delAttr s n = .ok c') (hc : P c) : P c' := by
  revert h
  fun_cases delAttr s c n
  case case1 hd => rintro ⟨⟩; exact hP.del hd hc
  case case2 => nofun

theorem setItem_closed {i : Int} {v : Val} (h : c.setItem s i v = .ok c') (hc : P c) : P c' := by
  obtain ⟨key, _, rfl⟩ := setItem_ok h
  exact hP.set hc

theorem setItems_closed {l : List (Int × Val)} (h : setItems s c l = .ok c') (hc : P c) : P c' := by
  fun_induction setItems s c l
  case case1 => cases h; exact hc
  case case2 h1 ih => exact ih h (setItem_closed hP h1 hc)
  case case3 => cases h

theorem placeValue_closed {old : Dict Val} {index : Nat} {x : Sum Nat Val} {b : Bool}
    (h : placeValue old c index x b = .ok c') (hc : P c) : P c' := by
  revert h
  fun_cases placeValue old c index x b
  case case1 => rintro ⟨⟩; exact hc
  case case3 => nofun
  all_goals rintro ⟨⟩; exact hP.set hc

theorem compact1_closed {old : Dict Val} {news : List (Sum Nat Val)} {l : List Nat}
    (h : compact1 old news c l = .ok c') (hc : P c) : P c' := by
  fun_induction compact1 old news c l
  case case1 => cases h; exact hc
  case case2 h1 ih => exact ih h (placeValue_closed hP h1 hc)
  case case4 h1 ih => exact ih h (hP.del h1 hc)
  all_goals cases h

theorem compact2_closed {old : Dict Val} {news : List (Sum Nat Val)} {l : List Nat}
    (h : compact2 old news c l = .ok c') (hc : P c) : P c' := by
  fun_induction compact2 old news c l
  case case1 => cases h; exact hc
  case case2 h1 ih => exact ih h (placeValue_closed hP h1 hc)
  case case3 => cases h
  case case4 ih => exact ih h hc

theorem setSlice_closed {k : SliceK} {vals : List Val} (h : c.setSlice s k vals = .ok c')
    (hc : P c) : P c' := by
  revert h
  fun_cases setSlice s c k vals
  case case3 => exact (setItems_closed hP · hc)
  case case6 h1 => exact (compact2_closed hP · (compact1_closed hP h1 hc))
  all_goals nofun

theorem delPass_closed {vs : Nat} {l : List Int} {news news' : List Nat}
    (h : delPass s vs c news l = .ok (c', news')) (hc : P c) : P c' := by
  fun_induction delPass s vs c news l
  case case1 => cases h; exact hc
  case case3 hd ih => exact ih h (hP.del hd hc)
  case case5 ih | case7 ih => exact ih h hc
  all_goals cases h

theorem delCompact_closed {news : List Nat} {l : List Nat} (h : delCompact news c l = .ok c')
    (hc : P c) : P c' := by
  fun_induction delCompact news c l
  case case1 => cases h; exact hc
  case case2 ih => exact ih h (hP.set hc)
  case case4 ih => exact ih h hc
  case case5 hd ih => exact ih h (hP.del hd hc)
  all_goals cases h

theorem delIndices_closed {l : List Int} (h : c.delIndices s l = .ok c') (hc : P c) : P c' := by
  revert h
  fun_cases delIndices s c l
  case case1 => nofun
  case case2 h1 => exact (delCompact_closed hP · (delPass_closed hP h1 hc))

theorem delItem_closed {i : Int} (h : c.delItem s i = .ok c') (hc : P c) : P c' := by
  revert h
  fun_cases delItem s c i
  case case1 => nofun
  case case2 => exact (delIndices_closed hP · hc)

theorem delSlice_closed {k : SliceK} (h : c.delSlice s k = .ok c') (hc : P c) : P c' := by
  revert h
  fun_cases delSlice s c k
  case case1 => nofun
  case case2 => exact (delIndices_closed hP · hc)

theorem applyOp_closed {o : Op} (h : c.applyOp s o = .ok c') (hc : P c) : P c' := by
  revert h
  fun_cases applyOp s c o
  case case1 => exact (setAttr_closed hP · hc)
  case case2 => exact (delAttr_closed hP · hc)
  case case3 => exact (setItem_closed hP · hc)
  case case4 => exact (setSlice_closed hP · hc)
  case case5 => exact (delItem_closed hP · hc)
  case case6 => exact (delSlice_closed hP · hc)

theorem run_closed (s : Sig) (ops : List Op) (c : Cfg) (hc : P c) : P (run s c ops) := by
  fun_induction run s c ops
  case case1 => exact hc
  case case2 h ih => exact ih (applyOp_closed hP h hc)
  case case3 ih => exact ih hc

end

end Cfg
end Fiddle
