/-
The thread system (`Model/Threads.lean`): three facts about one step (`Sys.step_other`, `Sys.step_local`,
`Sys.step_seqs`), and from them non-interference and the sequence numbers of a run.
-/
import FiddleModel.Model.Threads

namespace Fiddle

theorem setThread_same (s : Sys) (t : Nat) (ts : TState) : (s.setThread t ts).threads t = ts := by
  simp [Sys.setThread]

theorem setThread_other {s : Sys} {t u : Nat} {ts : TState} (h : u ≠ t) :
    (s.setThread t ts).threads u = s.threads u := by
  simp [Sys.setThread, h]

theorem setThread_ctr (s : Sys) (t : Nat) (ts : TState) : (s.setThread t ts).ctr = s.ctr := rfl

theorem Sys.step_other (s : Sys) {t u : Nat} (op : TOp) (h : u ≠ t) :
    (s.step t op).1.threads u = s.threads u := by
  fun_cases Sys.step s t op
  case case2 | case3 | case4 | case6 => exact setThread_other h  -- `t`'s state is replaced
  all_goals rfl

theorem Sys.step_seqs (s : Sys) (t : Nat) (op : TOp) :
    ∃ n, (s.step t op).1.ctr = s.ctr + n ∧ seqsOf [(s.step t op).2] = List.range' s.ctr n := by
  fun_cases Sys.step s t op
  case case7 => exact ⟨1, rfl, rfl⟩  -- `log` while tracking
  all_goals exact ⟨0, rfl, rfl⟩

/-- Up to `erase`: the number `log` draws is the value of the shared counter. -/
theorem Sys.step_local {s s' : Sys} {t : Nat} (op : TOp) (h : s.threads t = s'.threads t) :
    (s.step t op).1.threads t = (s'.step t op).1.threads t ∧
      (s.step t op).2.erase = (s'.step t op).2.erase := by
  unfold Sys.step
  rw [h]
  cases op <;> dsimp only
  case enterBuild | resume => split <;> simp [setThread_same, h]
  case exitBuild | suspend => simp [setThread_same]
  case log => split <;> simp [TOut.erase, h]
  case readTracking | readInBuild => simp [h]

theorem Sys.run_cons (s : Sys) (t : Nat) (op : TOp) (rest : List (Nat × TOp)) :
    s.run ((t, op) :: rest) =
      (((s.step t op).1.run rest).1, (t, (s.step t op).2) :: ((s.step t op).1.run rest).2) := rfl

theorem Sys.run_noninterference {t : Nat} {s s' : Sys} (sched : List (Nat × TOp))
    (h : s.threads t = s'.threads t) :
    (outputsOf t (s.run sched).2).map TOut.erase =
        (outputsOf t (s'.run (programOf t sched)).2).map TOut.erase ∧
      (s.run sched).1.threads t = (s'.run (programOf t sched)).1.threads t := by
  induction sched generalizing s s' with
  | nil => exact ⟨rfl, h⟩
  | cons x rest ih =>
    obtain ⟨u, op⟩ := x
    by_cases hu : u = t
    · subst hu
      obtain ⟨hl, ho⟩ := Sys.step_local op h
      simpa [programOf, outputsOf, Sys.run_cons, ho] using ih hl
    · have hl := (Sys.step_other s op (Ne.symm hu)).trans h
      simpa [programOf, outputsOf, Sys.run_cons, hu] using ih hl

def allSeqs (os : List (Nat × TOut)) : List Nat := seqsOf (os.map (·.2))

theorem seqsOf_append (a b : List TOut) : seqsOf (a ++ b) = seqsOf a ++ seqsOf b :=
  List.filterMap_append

theorem allSeqs_cons (t : Nat) (o : TOut) (os : List (Nat × TOut)) :
    allSeqs ((t, o) :: os) = seqsOf [o] ++ allSeqs os :=
  seqsOf_append [o] _

theorem Sys.run_seqs (sched : List (Nat × TOp)) (s : Sys) :
    ∃ n, (s.run sched).1.ctr = s.ctr + n ∧ allSeqs (s.run sched).2 = List.range' s.ctr n := by
  induction sched generalizing s with
  | nil => exact ⟨0, rfl, rfl⟩
  | cons x rest ih =>
    obtain ⟨u, op⟩ := x
    obtain ⟨m, hm, em⟩ := Sys.step_seqs s u op
    obtain ⟨n, hn, en⟩ := ih (s.step u op).1
    refine ⟨m + n, by rw [Sys.run_cons, hn, hm, Nat.add_assoc], ?_⟩
    rw [Sys.run_cons, allSeqs_cons, em, en, hm, List.range'_append_1]

theorem seqsOf_thread_sublist (t : Nat) (os : List (Nat × TOut)) :
    (seqsOf (outputsOf t os)).Sublist (allSeqs os) :=
  List.Sublist.filterMap _ (List.Sublist.map _ List.filter_sublist)

end Fiddle
