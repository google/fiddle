/-
Rebuilding a rebuilt structure changes nothing: the table `dump_json` writes for the
reconstruction `load_json` made is the table it was loaded from.

The second run is simulated over the table the first one produced. Its fuel is a variable:
a copy's index is below the length of the table and the copies of an object's children lie
below the object's own copy, so any fuel above the rank of the value it starts from suffices.
-/
import FiddleModel.Lemmas.RebuildL

namespace Fiddle

/-- The second run after `n` objects: it has re-created the first `n` entries of the table `g`,
    each under its own index. -/
def IdSt (g : Heap) (n : Nat) (st2 : RbSt) : Prop :=
  st2.out = g.take n ∧ ∀ k, rbGet st2.memo k = if k < n then some k else none

theorem IdSt.alloc {g : Heap} {n : Nat} {st2 : RbSt} {o : GObj} (hid : IdSt g n st2)
    (hg : g[n]? = some o) :
    IdSt g (n + 1) { memo := (n, n) :: st2.memo, out := st2.out ++ [o] } := by
  refine ⟨by rw [hid.1, List.take_add_one, hg]; rfl, fun k => ?_⟩
  rw [rbGet_cons, hid.2 k]
  rcases Nat.lt_trichotomy k n with hk | rfl | hk
  · rw [if_neg (Nat.ne_of_gt hk), if_pos hk, if_pos (Nat.lt_succ_of_lt hk)]
  · rw [if_pos rfl, if_pos (Nat.lt_succ_self k)]
  · rw [if_neg (Nat.ne_of_lt hk), if_neg (Nat.lt_asymm hk), if_neg (Nat.not_lt.mpr hk)]

section
variable {h g : Heap} {f f2 : Nat} {st st' st2 : RbSt}

theorem rebuildChildren_again_of (wf : h.WellFormed)
    (ihv : ∀ {v st r st' st2}, rebuildVal h f v st = .ok (r, st') → st.Inv h → st'.out <+: g →
      IdSt g st.out.length st2 → r.rank < f2 →
      ∃ st2', rebuildVal g f2 r st2 = .ok (r, st2') ∧ IdSt g st'.out.length st2')
    {cs : List (PElem × GVal)} {bound : Nat} (hcs : ∀ c ∈ cs, c.2.rank ≤ bound)
    {vals : List GVal} (hb : rebuildChildren h f cs st = .ok (vals, st')) (hi : st.Inv h)
    (hg : st'.out <+: g) (hid : IdSt g st.out.length st2) (hf2 : st'.out.length < f2) :
    ∃ st2', rebuildChildren g f2 ((cs.map (·.1)).zip vals) st2 = .ok (vals, st2') ∧
      IdSt g st'.out.length st2' := by
  induction cs generalizing st vals st2 with
  | nil =>
    rw [rebuildChildren] at hb
    cases hb
    exact ⟨st2, by rw [List.map_nil, List.zip_nil_left, rebuildChildren], hid⟩
  | cons c cs ih =>
    rw [List.forall_mem_cons] at hcs
    rw [rebuildChildren] at hb
    split at hb
    · cases hb
    · next r st1 h1 =>
      split at hb
      · cases hb
      · next rs st3 h2 =>
        cases hb
        obtain ⟨s1, b1⟩ := rebuildVal_step wf h1 hi
        have s2 := (rebuildChildren_step_of (rebuildVal_step wf) hcs.2 h2 s1.inv).1
        -- `r` lies in the first run's table, which only grows
        obtain ⟨st2a, ha, hida⟩ := ihv h1 hi (s2.outPrefix.trans hg) hid
          (Nat.lt_of_le_of_lt (Nat.le_trans (b1.rank_le s1.inv) s2.outPrefix.length_le) hf2)
        obtain ⟨st2b, hb2, hidb⟩ := ih hcs.2 h2 s1.inv hida
        exact ⟨st2b,
          by simp only [List.map_cons, List.zip_cons_cons, rebuildChildren, ha, hb2], hidb⟩

theorem rebuildVal_again (wf : h.WellFormed) {v r : GVal}
    (hb : rebuildVal h f v st = .ok (r, st')) (hi : st.Inv h) (hg : st'.out <+: g)
    (hid : IdSt g st.out.length st2) (hf2 : r.rank < f2) :
    ∃ st2', rebuildVal g f2 r st2 = .ok (r, st2') ∧ IdSt g st'.out.length st2' := by
  induction f using Nat.strongRecOn generalizing f2 v st r st' st2 with
  | _ f ih =>
  obtain ⟨f2, rfl⟩ := Nat.exists_eq_add_one.mpr (Nat.zero_lt_of_lt hf2)
  revert hb
  fun_cases rebuildVal h f v st
  case case2 => -- atom
    rintro ⟨⟩
    exact ⟨st2, by unfold rebuildVal; rfl, hid⟩
  case case3 i j hj =>
    -- already copied to `j`: the second run has re-created entry `j`
    rintro ⟨⟩
    exact ⟨st2, by unfold rebuildVal; rw [hid.2 j, if_pos (hi.fresh i j hj)], hid⟩
  case case6 f i o ho vals st1 j hnone hch =>
    -- the object the first run allocated is entry `j` of the table
    rintro ⟨⟩
    obtain ⟨s1, hvals, -⟩ := rebuildChildren_step_of (rebuildVal_step wf) (wf.rank_le ho) hch hi
    have hg1 : st1.out <+: g := (List.prefix_append _ _).trans hg
    have hgj : g[j]? =
        some { o with children := (o.children.map (·.1)).zip vals } := by
      obtain ⟨t, rfl⟩ := hg
      rw [List.getElem?_append_left (by simp [j]), List.getElem?_concat_length]
    obtain ⟨st2a, hca, hida⟩ := rebuildChildren_again_of wf (ih f (Nat.lt_succ_self _))
      (wf.rank_le ho) hch hi hg1 hid (Nat.lt_of_succ_lt_succ hf2)
    have hlen2 : st2a.out.length = st1.out.length := by
      rw [hida.1, List.length_take, Nat.min_eq_left hg1.length_le]
    have hkeys : ((o.children.map (·.1)).zip vals).map (·.1) = o.children.map (·.1) :=
      List.map_fst_zip
        (by rw [hvals, List.length_map, List.length_map]; exact Nat.le_refl _)
    have hm2 : rbGet st2.memo j = none := by
      rw [hid.2, if_neg (Nat.not_lt.mpr s1.outPrefix.length_le)]
    refine ⟨_, by unfold rebuildVal; simp only [hm2, hgj, hca, hkeys, hlen2]; rfl, ?_⟩
    rw [List.length_append]
    exact hida.alloc hgj
  all_goals nofun

end

theorem rebuild_stable (h : Heap) (wf : h.WellFormed) (root r : GVal) (st : RbSt)
    (hb : rebuild h root = .ok (r, st)) :
    ∃ st2, rebuild st.out r = .ok (r, st2) ∧ st2.out = st.out := by
  obtain ⟨hi, m⟩ := rebuild_spec wf hb
  obtain ⟨st2, h2, hid⟩ := rebuildVal_again (st2 := {}) wf hb (RbSt.inv_init h) (List.prefix_refl _)
    ⟨rfl, fun k => rfl⟩ (Nat.lt_succ_of_le (Rebuilt.rank_le hi m))
  exact ⟨st2, h2, by rw [hid.1, List.take_length]⟩

end Fiddle
