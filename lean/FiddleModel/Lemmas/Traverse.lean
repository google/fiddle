/-
`followPath` one step at a time (a lookup among the `kids` of a value; on a well-formed heap a step
lowers the `rank`, so the fuel `|heap| + 1` suffices), and `iterate` measured against it: sound in
every mode; un-memoized it is the closed form `pairs` (`allPathsTo` is a filter of it); memoized (mode
`.memo`) it yields each reachable object once (`mem_reachableIds`: `reachableIds` is reachability).
-/
import FiddleModel.Model.Select
import FiddleModel.Lemmas.Basic

namespace Fiddle

theorem Heap.pathsDistinct_of_B (h : Heap) (hb : h.pathsDistinctB = true) : h.PathsDistinct :=
  fun _ o ho => of_decide_eq_true (List.all_eq_true.mp hb o (List.mem_of_getElem? ho))

theorem Heap.wellFormed_of_B (h : Heap) (hb : h.wellFormedB = true) : h.WellFormed := by
  intro i o ho pv hpv j hj
  have hm : (o, i) ∈ h.zipIdx := List.mem_zipIdx_iff_getElem?.mpr ho
  have := List.all_eq_true.mp (List.all_eq_true.mp hb (o, i) hm) pv hpv
  rw [hj] at this
  exact of_decide_eq_true this

theorem childAt_of_mem {o : GObj} {pv : PElem × GVal} (hn : (o.children.map (·.1)).Nodup)
    (hm : pv ∈ o.children) : childAt o pv.1 = some pv.2 := assoc_of_mem hn hm

theorem childAt_mem {o : GObj} {pe : PElem} {c : GVal} (hc : childAt o pe = some c) :
    (pe, c) ∈ o.children := assoc_mem hc

/-- What `daglish` flattens a value to: its (path element, child) pairs. -/
def kids (h : Heap) : GVal → List (PElem × GVal)
  | .atom _ => []
  | .ref i => match h[i]? with
    | none => []
    | some o => o.children

theorem kids_ref {h : Heap} {i : Nat} {o : GObj} (ho : h[i]? = some o) :
    kids h (.ref i) = o.children := by simp only [kids, ho]

theorem mem_kids {h : Heap} {v : GVal} {pv : PElem × GVal} :
    pv ∈ kids h v ↔ ∃ i o, v = .ref i ∧ h[i]? = some o ∧ pv ∈ o.children := by
  constructor
  · fun_cases kids h v
    case case3 i o ho => exact fun hm => ⟨i, o, rfl, ho, hm⟩
    all_goals nofun
  · rintro ⟨i, o, rfl, ho, hm⟩; exact kids_ref ho ▸ hm

theorem Heap.PathsDistinct.kids {h : Heap} (hd : h.PathsDistinct) (v : GVal) :
    ((kids h v).map (·.1)).Nodup := by
  fun_cases Fiddle.kids h v
  case case3 i o ho => exact hd i o ho
  all_goals exact List.nodup_nil

@[simp] theorem followPath_nil (h : Heap) (v : GVal) : followPath h v [] = some v := by
  cases v <;> rfl

theorem followPath_append_eq (h : Heap) (v : GVal) (p q : Path) :
    followPath h v (p ++ q) = (followPath h v p).bind (fun w => followPath h w q) := by
  fun_induction followPath h v p
  case case1 => rfl
  case case2 => rfl
  all_goals simp only [List.cons_append, followPath, Option.bind_none, *]

theorem followPath_append (h : Heap) (root v w : GVal) (p q : Path)
    (hp : followPath h root p = some v) (hq : followPath h v q = some w) :
    followPath h root (p ++ q) = some w := by
  rw [followPath_append_eq, hp]; exact hq

theorem followPath_cons (h : Heap) (v : GVal) (pe : PElem) (rest : Path) :
    followPath h v (pe :: rest) = (followPath h v [pe]).bind (fun c => followPath h c rest) :=
  followPath_append_eq h v [pe] rest

theorem followPath_cons_eq_some {h : Heap} {v w : GVal} {pe : PElem} {rest : Path} :
    followPath h v (pe :: rest) = some w ↔
      ∃ c, followPath h v [pe] = some c ∧ followPath h c rest = some w := by
  rw [followPath_cons, Option.bind_eq_some_iff]

theorem followPath_single_ref (h : Heap) (i : Nat) (pe : PElem) :
    followPath h (.ref i) [pe] = (h[i]?).bind (fun o => childAt o pe) := by
  rw [followPath]
  cases h[i]? with
  | none => rfl
  | some o => dsimp only [Option.bind_some]; cases childAt o pe <;> simp

theorem followPath_single (h : Heap) (v : GVal) (pe : PElem) :
    followPath h v [pe] = assoc (kids h v) pe := by
  cases v with
  | atom t => rfl
  | ref i => rw [followPath_single_ref, kids]; cases h[i]? <;> rfl

theorem mem_kids_of_followPath {h : Heap} {v c : GVal} {pe : PElem}
    (hf : followPath h v [pe] = some c) : (pe, c) ∈ kids h v :=
  assoc_mem (followPath_single h v pe ▸ hf)

theorem followPath_of_mem_kids {h : Heap} (hd : h.PathsDistinct) {v : GVal} {pv : PElem × GVal}
    (hm : pv ∈ kids h v) : followPath h v [pv.1] = some pv.2 :=
  (followPath_single h v pv.1).trans (assoc_of_mem (hd.kids v) hm)

theorem followPath_sim {h h' : Heap} {f : GVal → GVal} {S : GVal → Prop}
    (step : ∀ v pe, S v → followPath h' (f v) [pe] = (followPath h v [pe]).map f)
    (closed : ∀ v pe c, S v → followPath h v [pe] = some c → S c)
    (p : Path) (v : GVal) (hv : S v) : followPath h' (f v) p = (followPath h v p).map f := by
  induction p generalizing v with
  | nil => rw [followPath_nil, followPath_nil]; rfl
  | cons pe rest ih =>
    rw [followPath_cons, followPath_cons h v, step v pe hv]
    cases hc : followPath h v [pe] with
    | none => rfl
    | some c => exact ih c (closed v pe c hv hc)

theorem followPath_closed {h : Heap} {S : GVal → Prop}
    (closed : ∀ v pe c, S v → followPath h v [pe] = some c → S c)
    (p : Path) (v w : GVal) (hv : S v) (hf : followPath h v p = some w) : S w := by
  induction p generalizing v with
  | nil => rw [followPath_nil] at hf; cases hf; exact hv
  | cons pe rest ih =>
    obtain ⟨c, hc, hr⟩ := followPath_cons_eq_some.mp hf
    exact ih c (closed v pe c hv hc) hr

def GVal.rank : GVal → Nat
  | .atom _ => 0
  | .ref i => i + 1

theorem GVal.rank_le {v : GVal} {i : Nat} (h : ∀ j, v = .ref j → j < i) : v.rank ≤ i := by
  cases v with
  | atom t => exact Nat.zero_le i
  | ref j => exact h j rfl

theorem Heap.WellFormed.rank_le {h : Heap} (wf : h.WellFormed) {i : Nat} {o : GObj}
    (ho : h[i]? = some o) : ∀ c ∈ o.children, c.2.rank ≤ i :=
  fun c hc => GVal.rank_le (wf i o ho c hc)

theorem Heap.WellFormed.rank_kids {h : Heap} (wf : h.WellFormed) {v : GVal} {pv : PElem × GVal}
    (hm : pv ∈ kids h v) : pv.2.rank < v.rank := by
  obtain ⟨i, o, rfl, ho, hpv⟩ := mem_kids.mp hm
  exact Nat.lt_succ_of_le (wf.rank_le ho pv hpv)

theorem followPath_rank {h : Heap} (wf : h.WellFormed) {q : Path} {v w : GVal}
    (hf : followPath h v q = some w) : w.rank + q.length ≤ v.rank := by
  induction q generalizing v with
  | nil => rw [followPath_nil] at hf; cases hf; exact Nat.le_refl _
  | cons pe rest ih =>
    obtain ⟨c, hc, hr⟩ := followPath_cons_eq_some.mp hf
    exact Nat.le_trans (Nat.succ_le_succ (ih hr)) (wf.rank_kids (mem_kids_of_followPath hc))

/-- A path is shorter than the traversal's fuel `|heap| + 1`. -/
theorem followPath_length_heap {h : Heap} (wf : h.WellFormed) {q : Path} {v w : GVal}
    (hf : followPath h v q = some w) : q.length < h.length + 1 := by
  have hl := followPath_rank wf hf
  cases q with
  | nil => exact Nat.succ_pos _
  | cons pe rest =>
    obtain ⟨c, hc, _⟩ := followPath_cons_eq_some.mp hf
    obtain ⟨i, o, rfl, ho, _⟩ := mem_kids.mp (mem_kids_of_followPath hc)
    exact Nat.lt_succ_of_le (Nat.le_trans (Nat.le_trans (Nat.le_add_left _ _) hl)
      (List.getElem?_eq_some_iff.mp ho).1)

/-- The local `visit` of `iterGo`. -/
def visitSt (h : Heap) (mode : IterMode) (fuel : Nat) (v : GVal) (path : Path) (st : IterSt) :
    IterSt :=
  (kids h v).foldl (fun st pv => iterGo h mode fuel pv.2 (path ++ [pv.1]) st)
    { st with out := st.out ++ [(v, path)] }

/-- The id under which a traversal in `mode` memoizes `v`, if it does (`daglish.is_memoizable`,
    and never in an un-memoized traversal). -/
def memoKey (h : Heap) : IterMode → GVal → Option Nat
  | .memo, .ref i => some i
  | .memoNoInternables, .ref i => if isInternable h (h.length + 1) (.ref i) then none else some i
  | _, _ => none

theorem iterGo_succ (h : Heap) (mode : IterMode) (fuel : Nat) (v : GVal) (path : Path)
    (st : IterSt) :
    iterGo h mode (fuel + 1) v path st =
      match memoKey h mode v with
      | none => visitSt h mode fuel v path st
      | some i =>
        if st.memo.contains i then st
        else visitSt h mode fuel v path { st with memo := i :: st.memo } := by
  unfold iterGo visitSt kids
  cases v with
  | atom t => cases mode <;> rfl
  | ref i =>
    cases mode <;> dsimp only [memoKey]
    case memoNoInternables => cases isInternable h (h.length + 1) (.ref i) <;> cases h[i]? <;> rfl
    all_goals cases h[i]? <;> rfl

def IterSt.Sound (h : Heap) (root : GVal) (st : IterSt) : Prop :=
  ∀ vp ∈ st.out, followPath h root vp.2 = some vp.1

theorem iterGo_sound {h : Heap} (hd : h.PathsDistinct) {mode : IterMode} {root v : GVal}
    {fuel : Nat} {path : Path} {st : IterSt} (hp : followPath h root path = some v)
    (hs : st.Sound h root) : (iterGo h mode fuel v path st).Sound h root := by
  induction fuel generalizing v path st with
  | zero => exact hs
  | succ fuel ih =>
    have visit : ∀ memo, (visitSt h mode fuel v path { st with memo := memo }).Sound h root := by
      intro memo
      refine foldl_inv (IterSt.Sound h root)
        (List.forall_mem_append.mpr ⟨hs, List.forall_mem_singleton.mpr hp⟩)
        fun b hb pv hpv => ih ?_ hb
      exact followPath_append h root v pv.2 path [pv.1] hp (followPath_of_mem_kids hd hpv)
    rw [iterGo_succ]
    cases memoKey h mode v with
    | none => exact visit st.memo
    | some i => dsimp only; split; exact hs; exact visit _

theorem iterate_sound {h : Heap} (hd : h.PathsDistinct) (mode : IterMode) (root : GVal) :
    ∀ vp ∈ iterate h mode root, followPath h root vp.2 = some vp.1 :=
  iterGo_sound hd (followPath_nil h root) (fun _ hvp => nomatch hvp)

def pairs (h : Heap) : Nat → GVal → Path → List (GVal × Path)
  | 0, _, _ => []
  | fuel + 1, v, path =>
    (v, path) :: (kids h v).flatMap (fun pv => pairs h fuel pv.2 (path ++ [pv.1]))

theorem foldl_out_append {α} (f : α → List (GVal × Path)) (l : List α) (st : IterSt) :
    l.foldl (fun st a => { st with out := st.out ++ f a }) st =
      { st with out := st.out ++ l.flatMap f } := by
  induction l generalizing st with
  | nil => simp
  | cons x xs ih => simp [List.foldl_cons, ih, List.flatMap_cons, List.append_assoc]

theorem iterGo_basic (h : Heap) (fuel : Nat) (v : GVal) (path : Path) (st : IterSt) :
    iterGo h .basic fuel v path st = { st with out := st.out ++ pairs h fuel v path } := by
  fun_induction pairs h fuel v path generalizing st
  case case1 => rw [List.append_nil]; rfl
  case case2 ih =>
    rw [iterGo_succ]
    simp only [memoKey, visitSt, ih]
    rw [foldl_out_append, List.append_assoc, List.singleton_append]

theorem iterate_basic (h : Heap) (root : GVal) :
    iterate h .basic root = pairs h (h.length + 1) root [] := by
  simp [iterate, iterGo_basic]

theorem pairs_complete {h : Heap} {fuel : Nat} {v w : GVal} {q : Path} (path : Path)
    (hf : followPath h v q = some w) (hl : q.length < fuel) :
    (w, path ++ q) ∈ pairs h fuel v path := by
  fun_induction pairs h fuel v path generalizing q
  case case1 => cases hl
  case case2 ih =>
    cases q with
    | nil => rw [followPath_nil] at hf; cases hf; rw [List.append_nil]; exact List.mem_cons_self
    | cons pe rest =>
      obtain ⟨c, hc, hr⟩ := followPath_cons_eq_some.mp hf
      refine List.mem_cons_of_mem _ (List.mem_flatMap.mpr ⟨(pe, c), mem_kids_of_followPath hc, ?_⟩)
      have := ih (pe, c) hr (Nat.lt_of_succ_lt_succ hl)
      rwa [List.append_assoc] at this

theorem pairs_prefix {h : Heap} {fuel : Nat} {v : GVal} {path : Path} {wp : GVal × Path} :
    wp ∈ pairs h fuel v path → path <+: wp.2 := by
  fun_induction pairs h fuel v path
  case case1 => nofun
  case case2 ih =>
    intro hwp
    rcases List.mem_cons.mp hwp with rfl | hwp
    · exact List.prefix_refl _
    · obtain ⟨pv, _, hin⟩ := List.mem_flatMap.mp hwp
      exact (List.prefix_append _ _).trans (ih pv hin)

theorem pairs_paths_nodup {h : Heap} (hd : h.PathsDistinct) (fuel : Nat) (v : GVal) (path : Path) :
    ((pairs h fuel v path).map (·.2)).Nodup := by
  fun_induction pairs h fuel v path
  case case1 => exact List.nodup_nil
  case case2 fuel v path ih =>
    rw [List.map_cons, List.nodup_cons]
    constructor
    · intro hm
      obtain ⟨wp, hwp, e⟩ := List.mem_map.mp hm
      obtain ⟨pv, _, hin⟩ := List.mem_flatMap.mp hwp
      have := (pairs_prefix hin).length_le
      rw [e, List.length_append] at this
      exact Nat.not_succ_le_self _ this
    · rw [List.nodup_iff_pairwise_ne, List.pairwise_map, List.pairwise_flatMap]
      refine ⟨fun pv _ => List.pairwise_map.mp (List.nodup_iff_pairwise_ne.mp (ih pv)), ?_⟩
      -- the paths below two children extend `path` by their keys, and these differ
      refine (List.pairwise_map.mp (List.nodup_iff_pairwise_ne.mp (hd.kids v))).imp ?_
      intro c c' hne x hx y hy e
      obtain ⟨t, ht⟩ := pairs_prefix hx
      obtain ⟨t', ht'⟩ := pairs_prefix hy
      rw [← ht, ← ht', List.append_assoc, List.append_assoc] at e
      exact hne (List.cons.inj (List.append_cancel_left e)).1

theorem allPathsTo_eq (h : Heap) (root : GVal) (i : Nat) :
    allPathsTo h root i = ((iterate h .basic root).filter (fun vp => vp.1 == .ref i)).map (·.2) := by
  rw [allPathsTo, collectPathsById, List.filterMap_filterMap, ← List.filterMap_eq_filter,
    List.map_filterMap]
  congr 1; funext vp
  obtain ⟨w, q⟩ := vp
  cases w with
  | atom t => rfl
  | ref k => by_cases e : k = i <;> simp [e, Option.guard]

theorem refIds_append (a b : List (GVal × Path)) : refIds (a ++ b) = refIds a ++ refIds b :=
  List.filterMap_append

/-- The state of a memoized traversal evolves by two steps only: yield an atom; mark and yield
    an object not marked before. What both preserve, the traversal preserves. -/
theorem iterGo_memo_inv (h : Heap) (P : IterSt → Prop)
    (atom : ∀ st t p, P st → P { st with out := st.out ++ [(.atom t, p)] })
    (ref : ∀ st i p, i ∉ st.memo → P st →
      P { memo := i :: st.memo, out := st.out ++ [(.ref i, p)] })
    (fuel : Nat) (v : GVal) (path : Path) (st : IterSt) (hs : P st) :
    P (iterGo h .memo fuel v path st) := by
  induction fuel generalizing v path st with
  | zero => exact hs
  | succ fuel ih =>
    rw [iterGo_succ]
    cases v with
    | atom t => exact atom st t path hs
    | ref i =>
      dsimp only [memoKey]
      split
      · exact hs
      · rename_i hnot
        exact foldl_inv P (ref st i path (mt List.contains_iff_mem.mpr hnot) hs)
          fun b hb pv _ => ih _ _ b hb

theorem iterate_memo_log (h : Heap) (root : GVal) :
    (iterGo h .memo (h.length + 1) root [] {}).memo = (reachableIds h root).reverse ∧
      (reachableIds h root).Nodup := by
  have := iterGo_memo_inv h (fun st => st.memo = (refIds st.out).reverse ∧ st.memo.Nodup)
    ?_ ?_ (h.length + 1) root [] {} ⟨rfl, List.nodup_nil⟩
  · exact ⟨this.1, (List.reverse_perm _).nodup_iff.mp (this.1 ▸ this.2)⟩
  · intro st t p hs; rw [refIds_append]; exact (List.append_nil _).symm ▸ hs  -- an atom has no id
  · intro st i p hi hs
    rw [refIds_append, List.reverse_append, ← hs.1]
    exact ⟨rfl, List.nodup_cons.mpr ⟨hi, hs.2⟩⟩

theorem reachableIds_nodup (h : Heap) (root : GVal) : (reachableIds h root).Nodup :=
  (iterate_memo_log h root).2

theorem iterGo_memo_mono {h : Heap} {fuel : Nat} {v : GVal} {path : Path} {st : IterSt} :
    ∀ k ∈ st.memo, k ∈ (iterGo h .memo fuel v path st).memo :=
  iterGo_memo_inv h (fun st' => ∀ k ∈ st.memo, k ∈ st'.memo) (fun _ _ _ hs => hs)
    (fun _ _ _ _ hs k hk => List.mem_cons_of_mem _ (hs k hk)) fuel v path st (fun _ hk => hk)

theorem iterGo_memo_marks (h : Heap) {fuel : Nat} (hf : 0 < fuel) (i : Nat) (path : Path)
    (st : IterSt) : i ∈ (iterGo h .memo fuel (.ref i) path st).memo := by
  obtain ⟨fuel, rfl⟩ := Nat.exists_eq_succ_of_ne_zero (Nat.ne_of_gt hf)
  rw [iterGo_succ]
  dsimp only [memoKey]
  split
  · rename_i hin; exact List.contains_iff_mem.mp hin
  · exact foldl_inv (fun st' : IterSt => i ∈ st'.memo) List.mem_cons_self
      fun b hb pv _ => iterGo_memo_mono i hb

/-- Reachability through children (any object kind). -/
inductive ReachA (h : Heap) : Nat → Nat → Prop
  | refl (i : Nat) : ReachA h i i
  | step (i j k : Nat) (o : GObj) (pv : PElem × GVal) : h[i]? = some o →
      pv ∈ o.children → pv.2 = .ref j → ReachA h j k → ReachA h i k

/-- Every marked object outside `grey` has all its children marked. During the traversal
    `grey` is the recursion stack: the objects marked whose children are still being visited. -/
def ClosedExcept (h : Heap) (grey : List Nat) (st : IterSt) : Prop :=
  ∀ k ∈ st.memo, k ∉ grey → ∀ pv ∈ kids h (.ref k), ∀ j, pv.2 = .ref j → j ∈ st.memo

theorem iterGo_memo_closed {h : Heap} (wf : h.WellFormed) (fuel : Nat) (v : GVal) (path : Path)
    (st : IterSt) (grey : List Nat) (hr : v.rank ≤ fuel) (hc : ClosedExcept h grey st) :
    ClosedExcept h grey (iterGo h .memo fuel v path st) := by
  induction fuel generalizing v path st grey with
  | zero => exact hc
  | succ fuel ih =>
    rw [iterGo_succ]
    cases v with
    | atom t => exact hc
    | ref i =>
      dsimp only [memoKey]
      split
      · exact hc
      · have hkids : ∀ pv ∈ kids h (.ref i), pv.2.rank ≤ fuel := fun pv hpv =>
          Nat.le_of_lt_succ (Nat.lt_of_lt_of_le (wf.rank_kids hpv) hr)
        -- while the children of `i` are visited, `i` is grey ...
        have hfold : ClosedExcept h (i :: grey)
            (visitSt h .memo fuel (.ref i) path { st with memo := i :: st.memo }) := by
          refine foldl_inv (ClosedExcept h (i :: grey)) ?_
            fun b hb pv hpv => ih pv.2 _ b _ (hkids pv hpv) hb
          intro k hk hkg pv hpv j hj
          obtain ⟨hki, hkg⟩ := List.ne_and_not_mem_of_not_mem_cons hkg
          exact List.mem_cons_of_mem _
            (hc k ((List.mem_cons.mp hk).resolve_left hki) hkg pv hpv j hj)
        -- ... and afterwards all of them are marked.
        intro k hk hkg
        by_cases hki : k = i
        · subst hki
          intro pv hpv j hj
          have hjf : (GVal.ref j).rank ≤ fuel := hj ▸ hkids pv hpv
          -- the visit of `pv` marks `j`, the visits after it keep the mark
          obtain ⟨before, after, e⟩ := List.append_of_mem hpv
          rw [visitSt, e, List.foldl_append, List.foldl_cons, hj]
          exact foldl_inv (fun st' : IterSt => j ∈ st'.memo)
            (iterGo_memo_marks h (Nat.zero_lt_of_lt hjf) j _ _)
            fun b hb pv _ => iterGo_memo_mono j hb
        · exact hfold k hk fun hm => (List.mem_cons.mp hm).elim hki hkg

theorem ClosedExcept.reach {h : Heap} {st : IterSt} (hc : ClosedExcept h [] st) {i j : Nat}
    (hr : ReachA h i j) (hi : i ∈ st.memo) : j ∈ st.memo := by
  induction hr with
  | refl => exact hi
  | step i j k o pv ho hpv hj _ ih =>
    exact ih (hc i hi List.not_mem_nil pv (kids_ref ho ▸ hpv) j hj)

theorem reachableIds_of_reach {h : Heap} (wf : h.WellFormed) {i j : Nat} (hi : i < h.length)
    (hr : ReachA h i j) : j ∈ reachableIds h (.ref i) := by
  have hcl := iterGo_memo_closed wf (h.length + 1) (.ref i) [] {} []
    (Nat.succ_le_succ (Nat.le_of_lt hi)) (fun _ hk => nomatch hk)
  have := hcl.reach hr (iterGo_memo_marks h (Nat.succ_pos _) i [] {})
  rwa [(iterate_memo_log h (.ref i)).1, List.mem_reverse] at this

theorem followPath_reach {h : Heap} {p : Path} {i j : Nat}
    (hf : followPath h (.ref i) p = some (.ref j)) : ReachA h i j := by
  induction p generalizing i with
  | nil => rw [followPath_nil] at hf; cases hf; exact .refl _
  | cons pe rest ih =>
    obtain ⟨c, hc, hr⟩ := followPath_cons_eq_some.mp hf
    obtain ⟨_, o, ⟨⟩, ho, hc⟩ := mem_kids.mp (mem_kids_of_followPath hc)
    cases c with
    | atom t => cases rest <;> cases hr
    | ref k => exact .step i k j o (pe, .ref k) ho hc rfl (ih hr)

theorem mem_refIds {out : List (GVal × Path)} {j : Nat} :
    j ∈ refIds out ↔ ∃ p, (GVal.ref j, p) ∈ out := by
  rw [refIds, List.mem_filterMap]
  constructor
  · rintro ⟨⟨_ | k, p⟩, hm, ⟨⟩⟩
    exact ⟨p, hm⟩
  · rintro ⟨p, hm⟩
    exact ⟨(.ref j, p), hm, rfl⟩

theorem mem_reachableIds {h : Heap} (wf : h.WellFormed) (hd : h.PathsDistinct) {i j : Nat}
    (hi : i < h.length) : j ∈ reachableIds h (.ref i) ↔ ReachA h i j := by
  refine ⟨fun hm => ?_, reachableIds_of_reach wf hi⟩
  obtain ⟨p, hp⟩ := mem_refIds.mp hm
  exact followPath_reach (iterate_sound hd .memo (.ref i) _ hp)

end Fiddle
