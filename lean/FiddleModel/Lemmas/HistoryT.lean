/-
The tag half of the history invariant (the last UPDATE_TAGS entry of a key, if it has one, is its
current tag set), closed under the five primitive logged steps like the value half; the
constructor establishes both halves.
-/
import FiddleModel.Lemmas.Basic
import FiddleModel.Lemmas.History

namespace Fiddle

/-- If any tag update was logged for `k`, the last one is `k`'s current tag set (an argument
    without a stored tag set has the empty one, as with Python's `defaultdict(set)`). -/
def TagsFaithfulT (c : Cfg) : Prop :=
  ∀ k ts, lastTags c.hist k = some (.tags ts) → c.tagsOf k = ts

structure HistInvT (c : Cfg) : Prop where
  base : HistInv c
  tagsF : c.tracking = true → TagsFaithfulT c

/-- `hf`, not `HistInvT c`: at its uses `c` is the state with the store already changed. -/
theorem HistInvT_value {c : Cfg} {k : Key} {e : HVal} (he : e.isValue = true)
    (hf : c.tracking = true → TagsFaithfulT c) (hb : HistInv (c.log k e)) :
    HistInvT (c.log k e) where
  base := hb
  tagsF ht k' ts hl := by
    rw [log_tracking] at ht
    rw [log_hist_on k e ht, lastTags_append, if_neg (by simp [he])] at hl
    rw [Cfg.tagsOf, log_tags]
    exact hf ht k' ts hl

theorem HistInvT_write {c : Cfg} {k : Key} {t : Dict (List Nat)} {ts : List Nat} (hc : HistInvT c)
    (hk : ts = (t.get? k).getD []) (ho : ∀ {k'}, k ≠ k' → t.get? k' = c.tags.get? k') :
    HistInvT (({ c with tags := t } : Cfg).log k (.tags ts)) where
  base := HistInv_log (.inl rfl) hc.base
  tagsF ht k' ts' hl := by
    rw [log_tracking] at ht
    rw [log_hist_on _ _ ht, lastTags_append] at hl
    rw [Cfg.tagsOf, log_tags]
    by_cases h : k = k'
    · subst h
      rw [if_pos ⟨rfl, rfl⟩] at hl
      cases hl
      exact hk.symm
    · rw [if_neg (fun e => h e.1)] at hl
      rw [ho h]
      exact hc.tagsF ht k' ts' hl

theorem HistInvT_core : Cfg.ClosedCore HistInvT where
  plain hc := HistInvT_value rfl hc.tagsF (HistInv_core.plain hc.base)
  del hc := HistInvT_value rfl hc.tagsF (HistInv_core.del hc.base)
  setTags hc := HistInvT_write hc (by rw [Dict.get?_set_same]; rfl)
    Dict.get?_set_other
  logTags {c _} hc := HistInvT_write (t := c.tags) hc rfl fun _ => rfl
  logFn hc := HistInvT_value rfl hc.tagsF (HistInv_core.logFn hc.base)

def TrackedInvT (c : Cfg) : Prop := HistInvT c ∧ c.tracking = true

variable {s : Sig} {args : List Val} {kwargs : List (String × Val)} {ctr : Nat} {tr : Bool}
  {ann : List (String × List Nat)} {c : Cfg}

/-- The constructor is the `__fn_or_cls__` entry followed by calls of the set hook, so it
    establishes every invariant of the primitive steps that holds of the empty store. -/
theorem construct_closed {P : Cfg → Prop} (hP : Cfg.ClosedCore P)
    (h : construct s args kwargs ctr tr ann = some c) (h0 : P { ctr := ctr, tracking := tr }) :
    P c := by
  unfold construct at h
  split at h <;> cases h
  exact foldl_inv P (l := ann) (foldl_inv P (hP.logFn h0) fun c hc _ _ => hP.toClosed.set hc)
    fun c hc _ _ => hP.toClosed.set hc

theorem HistInvT_empty (ctr : Nat) (tr : Bool) : HistInvT { ctr := ctr, tracking := tr } where
  base := ⟨List.nodup_nil, ⟨List.Pairwise.nil, fun _ he => nomatch he⟩, fun _ _ _ => .inl rfl⟩
  tagsF _ _ _ h := by cases h

theorem construct_inv (h : construct s args kwargs ctr tr ann = some c) :
    HistInvT c ∧ c.tracking = tr :=
  construct_closed (HistInvT_core.and (tracking_core tr)) h ⟨HistInvT_empty ctr tr, rfl⟩

end Fiddle
