/-
Composing the one-to-one correspondences of `Lemmas/ShareL.lean`, for the transitivity of the
sharing walk between equal values.  The composition needs to know that paired objects have the
same kind and that paired children are internable together, which is what the value comparison
provides; so the correspondences are restricted to value-equal pairs as they are composed
(`compPairs`).
-/
import FiddleModel.Lemmas.ShareL

namespace Fiddle

variable {h1 h2 h3 : Heap}

/-- A successful comparison of two objects in the terms of `NodeOK`; the children keep the fuel
    because it exceeds the left index. -/
theorem valEq_mapRel (w1 : h1.EqWF) (w2 : h2.EqWF) {F i j : Nat} {a b : GObj}
    (ha : h1[i]? = some a) (hb : h2[j]? = some b) (hi : i < F)
    (h : valEq h1 h2 F (.ref i) (.ref j) = true) :
    a.kind = b.kind ∧ (a.kind ≠ .opaque →
      MapRel (fun v w => valEq h1 h2 F v w = true)
        (childrenWithDefaults a) (childrenWithDefaults b)) := by
  obtain ⟨f, rfl⟩ := Nat.exists_eq_add_one_of_ne_zero (Nat.ne_zero_of_lt hi)
  obtain ⟨a', b', ha', hb', n⟩ := valEq_ref_ref.mp h
  cases ha.symm.trans ha'; cases hb.symm.trans hb'
  exact ⟨n.1.1, fun hop => (n.mapRel (w2.keys j b hb) hop).imp fun x hx _ _ e =>
    valEq_of_fuel w1 e _ (w1.child_lt ha hx (Nat.lt_succ_of_lt hi))⟩

def compPairs (h1 h2 h3 : Heap) (F G : Nat) (B C : List (Nat × Nat)) : List (Nat × Nat) :=
  B.flatMap fun p => (C.filter fun q => q.1 == p.2 && valEq h1 h2 F (.ref p.1) (.ref p.2) &&
    valEq h2 h3 G (.ref q.1) (.ref q.2)).map fun q => (p.1, q.2)

variable {F G : Nat} {B C : List (Nat × Nat)}

theorem mem_compPairs {i k : Nat} :
    (i, k) ∈ compPairs h1 h2 h3 F G B C ↔ ∃ j, (i, j) ∈ B ∧ (j, k) ∈ C ∧
      valEq h1 h2 F (.ref i) (.ref j) = true ∧ valEq h2 h3 G (.ref j) (.ref k) = true := by
  unfold compPairs
  simp only [List.mem_flatMap, List.mem_map, List.mem_filter, Bool.and_eq_true, beq_iff_eq,
    Prod.mk.injEq]
  constructor
  · rintro ⟨⟨_, j⟩, hp, ⟨_, _⟩, ⟨hq, ⟨e, v12⟩, v23⟩, rfl, rfl⟩
    cases e
    exact ⟨j, hp, hq, v12, v23⟩
  · rintro ⟨j, hb, hc, v12, v23⟩
    exact ⟨(i, j), hb, (j, k), ⟨hc, ⟨rfl, v12⟩, v23⟩, rfl, rfl⟩

theorem Rec.comp (w1 : h1.EqWF) (w2 : h2.EqWF) (w3 : h3.EqWF) {x y z : GVal}
    (r12 : Rec h1 h2 B x y) (r23 : Rec h2 h3 C y z)
    (v12 : valEq h1 h2 F x y = true) (v23 : valEq h2 h3 G y z = true)
    (bx : ∀ i, x = .ref i → i < h1.length) (by_ : ∀ j, y = .ref j → j < h2.length)
    (bz : ∀ k, z = .ref k → k < h3.length) :
    Rec h1 h3 (compPairs h1 h2 h3 F G B C) x z := by
  have by' := ref_lt_mono by_ (Nat.le_succ _)
  have i12 := valEq_internable w1 w2 v12 _ _ (ref_lt_mono bx (Nat.le_succ _)) by'
  have i23 := valEq_internable w2 w3 v23 _ _ by' (ref_lt_mono bz (Nat.le_succ _))
  rcases r12 with s12 | ⟨i, j, rfl, rfl, hm12⟩
  · rw [skipB, ← i12, Bool.or_self] at s12
    exact .inl (by rw [skipB, s12, Bool.true_or])
  · rcases r23 with s23 | ⟨j', k, e, rfl, hm23⟩
    · rw [skipB, i23, Bool.or_self] at s23
      exact .inl (by rw [skipB, s23, Bool.or_true])
    · cases e
      exact .inr ⟨i, k, rfl, rfl, mem_compPairs.mpr ⟨j, hm12, hm23, v12, v23⟩⟩

theorem Corr.comp (w1 : h1.EqWF) (w2 : h2.EqWF) (w3 : h3.EqWF) (hB : Corr h1 h2 B)
    (hC : Corr h2 h3 C) (hF : h1.length < F) (hG : h2.length < G) :
    Corr h1 h3 (compPairs h1 h2 h3 F G B C) := by
  refine ⟨fun i k k' a b => ?_, fun i i' k a b => ?_, ?_⟩
  · obtain ⟨j, a1, a2, _⟩ := mem_compPairs.mp a
    obtain ⟨j', b1, b2, _⟩ := mem_compPairs.mp b
    cases hB.fun1 i j j' a1 b1
    exact hC.fun1 j k k' a2 b2
  · obtain ⟨j, a1, a2, _⟩ := mem_compPairs.mp a
    obtain ⟨j', b1, b2, _⟩ := mem_compPairs.mp b
    cases hC.fun2 j j' k a2 b2
    exact hB.fun2 i i' j a1 b1
  · rintro ⟨i, k⟩ hp
    obtain ⟨j, hij, hjk, e12, e23⟩ := mem_compPairs.mp hp
    obtain ⟨a, b, ha, hb, ok12⟩ := hB.closed (i, j) hij
    obtain ⟨_, c, hb', hc, ok23⟩ := hC.closed (j, k) hjk
    cases hb.symm.trans hb'
    have hi := (List.getElem?_eq_some_iff.mp ha).1
    have hj := (List.getElem?_eq_some_iff.mp hb).1
    have hk := (List.getElem?_eq_some_iff.mp hc).1
    obtain ⟨k12, v12⟩ := valEq_mapRel w1 w2 ha hb (Nat.lt_trans hi hF) e12
    obtain ⟨k23, v23⟩ := valEq_mapRel w2 w3 hb hc (Nat.lt_trans hj hG) e23
    refine ⟨a, c, ha, hc, ?_⟩
    by_cases hop : a.kind = .opaque
    · exact .inl hop
    have hopb : b.kind ≠ .opaque := k12 ▸ hop
    have m12 := MapRel.and ((ok12.resolve_left hop).resolve_left hopb) (v12 hop)
    have m23 := MapRel.and ((ok23.resolve_left hopb).resolve_left (k23 ▸ hopb)) (v23 hopb)
    exact .inr (.inr (m12.trans m23 fun x hx y hy z hz r s =>
      Rec.comp w1 w2 w3 r.1 s.1 r.2 s.2 (w1.child_lt ha hx (Nat.lt_succ_of_lt hi))
        (w2.child_lt hb hy (Nat.lt_succ_of_lt hj)) (w3.child_lt hc hz (Nat.lt_succ_of_lt hk))))

end Fiddle
