/-
CPython's slice arithmetic: `slice.indices(len)` clamps start and stop, `range` stays between its
ends, so every position a slice selects lies inside the list and the `filterMap` in `Py.getSlice`
drops none of them (`getSlice_spec`).
-/
import FiddleModel.Lemmas.Basic

namespace Py

theorem getIdx_natCast {α} (xs : List α) (m : Nat) : getIdx xs (m : Int) = xs[m]? := by
  simp only [getIdx, Int.not_lt.mpr (Int.natCast_nonneg m), if_false, Int.toNat_natCast]

theorem sliceIndices_bounds {sl : Slice} {len : Nat} {a b st : Int}
    (h : sliceIndices sl len = some (a, b, st)) :
    st ≠ 0 ∧ ((if st < 0 then -1 else 0) ≤ a ∧ a ≤ (if st < 0 then (len : Int) - 1 else len)) ∧
      (if st < 0 then -1 else 0) ≤ b ∧ b ≤ (if st < 0 then (len : Int) - 1 else len) := by
  revert h
  fun_cases sliceIndices sl len
  case case1 => nofun
  case case2 st' hst n lower upper adj a' b' =>
    simp only [Option.some.injEq, Prod.mk.injEq]
    rintro ⟨rfl, rfl, rfl⟩
    have hlu : lower ≤ 0 ∧ lower ≤ upper ∧ n ≤ upper + 1 := by
      unfold lower upper n; omega
    have hadj : ∀ x, lower ≤ adj x ∧ adj x ≤ upper := fun x => by
      unfold adj; omega
    refine ⟨hst, ?_, ?_⟩
    · show lower ≤ a' ∧ a' ≤ upper
      unfold a'
      cases sl.start with
      | none => simp only []; omega
      | some x => exact hadj x
    · show lower ≤ b' ∧ b' ≤ upper
      unfold b'
      cases sl.stop with
      | none => simp only []; omega
      | some x => exact hadj x

theorem mul_lt_of_lt_ceilDiv (d st : Int) (k : Nat) (hst : 0 < st)
    (hk : k < ((d + st - 1) / st).toNat) : (k : Int) * st < d := by
  have := (Int.le_ediv_iff_mul_le hst).mp (Int.add_one_le_iff.mpr (Int.lt_toNat.mp hk))
  rw [Int.add_mul, Int.one_mul] at this
  omega

theorem rangeList_between {a b st i : Int} (hi : i ∈ rangeList a b st) :
    (0 < st → a ≤ i ∧ i < b) ∧ (st < 0 → b < i ∧ i ≤ a) := by
  simp only [rangeList, List.mem_map, List.mem_range] at hi
  obtain ⟨k, hk, rfl⟩ := hi
  revert hk
  fun_cases rangeLen a b st
  case case1 hst _ =>
    intro hk
    have := mul_lt_of_lt_ceilDiv (b - a) st k hst hk
    have := Int.mul_nonneg (Int.natCast_nonneg k) (Int.le_of_lt hst)
    omega
  case case3 _ hst _ =>
    intro hk
    have hpos := Int.neg_pos_of_neg hst
    have := mul_lt_of_lt_ceilDiv (a - b) (-st) k hpos hk
    have := Int.mul_nonneg (Int.natCast_nonneg k) (Int.le_of_lt hpos)
    rw [Int.mul_neg] at *
    omega
  all_goals nofun

theorem rangeList_bounds (sl : Slice) (len : Nat) (a b st : Int)
    (h : sliceIndices sl len = some (a, b, st)) :
    ∀ i ∈ rangeList a b st, 0 ≤ i ∧ i < (len : Int) := by
  intro i hi
  obtain ⟨h0, ha, hb⟩ := sliceIndices_bounds h
  obtain ⟨hp, hn⟩ := rangeList_between hi
  rcases Int.lt_or_gt_of_ne h0 with hst | hst
  · simp only [hst, if_true] at ha hb
    have := hn hst
    omega
  · simp only [Int.lt_asymm hst, if_false] at ha hb
    have := hp hst
    omega

theorem rangeList_nat {sl : Slice} {len : Nat} {a b st : Int} (h : sliceIndices sl len = some (a, b, st)) :
    ∀ i ∈ rangeList a b st, ∃ m : Nat, i = (m : Int) ∧ m < len := by
  intro i hi
  obtain ⟨h0, hlt⟩ := rangeList_bounds sl len a b st h i hi
  exact ⟨i.toNat, (Int.toNat_of_nonneg h0).symm, (Int.toNat_lt h0).mpr hlt⟩

theorem getSlice_spec {α} {xs : List α} {sl : Slice} {vs : List α} (h : getSlice xs sl = some vs) :
    ∃ a b st, sliceIndices sl xs.length = some (a, b, st) ∧ vs.length = (rangeList a b st).length ∧
      ∀ n (hn : n < (rangeList a b st).length), vs[n]? = xs[((rangeList a b st)[n]).toNat]? := by
  unfold getSlice at h
  split at h
  · cases h
  · rename_i a b st hsl
    cases h
    have hm : (List.filterMap (fun i : Int => xs[i.toNat]?) (rangeList a b st)).map some = _ :=
      List.map_some_filterMap fun i hi => by
        obtain ⟨m, rfl, hm⟩ := rangeList_nat hsl i hi
        rw [Int.toNat_natCast, List.getElem?_eq_getElem hm]; rfl
    refine ⟨a, b, st, hsl, ?_, fun n hn => ?_⟩
    · rw [← List.length_map (f := some), hm, List.length_map]
    · have := congrArg (·[n]?) hm
      simp only [List.getElem?_map, List.getElem?_eq_getElem hn, Option.map_some] at this
      obtain ⟨v, hv, e⟩ := Option.map_eq_some_iff.mp this
      rw [hv, e]

end Py
