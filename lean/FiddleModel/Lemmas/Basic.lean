/-
Facts about `Except`, lists and association lists that are not about the model, shared by the
proof files, and the instance the `decide`d examples need; last, the one fact about a model
function (`tagInsert`) that two otherwise unrelated files use.
-/
import FiddleModel.Model.ArgStore

deriving instance DecidableEq for Except

theorem Except.of_ite_error {ε α} {b : Prop} [Decidable b] {e : ε} {x : Except ε α} {a : α}
    (h : (if b then .error e else x) = .ok a) : x = .ok a := by
  split at h
  · cases h
  · exact h

theorem Except.ok_of_map_pair {ε α σ} {s s' : σ} {x : Except ε α} {a : α}
    (h : x.map (fun a => (s, a)) = .ok (s', a)) : x = .ok a := by
  cases x <;> cases h; rfl

theorem List.getLast?_filter_concat {α} (p : α → Bool) (l : List α) (a : α) :
    ((l ++ [a]).filter p).getLast? = if p a then some a else (l.filter p).getLast? := by
  rw [List.filter_append]
  cases h : p a <;> simp [List.filter, h]

theorem List.map_some_filterMap {α β} {f : α → Option β} {l : List α} (h : ∀ a ∈ l, (f a).isSome) :
    (l.filterMap f).map some = l.map f := by
  rw [List.map_filterMap_some_eq_filter_map_isSome, List.filter_eq_self]
  exact List.forall_mem_map.mpr h

namespace Fiddle

theorem ite_ok_iff {α ε} {p : Prop} [Decidable p] {x y : α} {e : ε} :
    (if p then Except.ok x else Except.error e) = .ok y ↔ p ∧ x = y := by
  split <;> simp [*]

/-- Core's `List.foldlRecOn` with the invariant explicit: unification does not find it. -/
theorem foldl_inv {α β} (P : β → Prop) {f : β → α → β} {l : List α} {b : β}
    (hb : P b) (hf : ∀ b, P b → ∀ a ∈ l, P (f b a)) : P (l.foldl f b) :=
  l.foldlRecOn f hb hf

theorem drop_eq_cons {α} {l : List α} {i : Nat} {a : α} {as : List α}
    (h : l.drop i = a :: as) : l[i]? = some a ∧ l.drop (i + 1) = as :=
  ⟨by rw [← List.head?_drop, h, List.head?_cons], by rw [← List.tail_drop, h, List.tail_cons]⟩

theorem getElem?_map_zipIdx {α β} (f : α × Nat → β) (l : List α) (k : Nat) :
    (l.zipIdx.map f)[k]? = (l[k]?).map (fun a => f (a, k)) := by
  rw [List.getElem?_map, List.getElem?_zipIdx, Option.map_map, Nat.zero_add]
  rfl

theorem map_fst_zip_sublist {α β} : ∀ (l₁ : List α) (l₂ : List β),
    ((l₁.zip l₂).map (·.1)).Sublist l₁
  | [], _ => .slnil
  | _ :: _, [] => List.nil_sublist _
  | a :: as, _ :: bs => (map_fst_zip_sublist as bs).cons_cons a

theorem nodup_eraseDups {α} [BEq α] [LawfulBEq α] : ∀ l : List α, l.eraseDups.Nodup
  | [] => .nil
  | a :: as => by
    rw [List.eraseDups_cons]
    exact List.nodup_cons.mpr ⟨by simp [List.mem_eraseDups], nodup_eraseDups _⟩
termination_by l => l.length
decreasing_by exact Nat.lt_succ_of_le (List.length_filter_le _ _)

theorem find?_of_mem_nodup_map {α κ} [BEq κ] [LawfulBEq κ] (f : α → κ) {l : List α}
    (hn : (l.map f).Nodup) {a : α} (hm : a ∈ l) : l.find? (fun x => f x == f a) = some a := by
  induction l with
  | nil => cases hm
  | cons x xs ih =>
    rw [List.map_cons, List.nodup_cons] at hn
    rcases List.mem_cons.mp hm with rfl | hm
    · exact List.find?_cons_of_pos BEq.rfl
    · have hne : f x ≠ f a := fun e => hn.1 (e ▸ List.mem_map_of_mem hm)
      rw [List.find?_cons_of_neg (by simpa using hne)]
      exact ih hn.2 hm

/-! ## Association lists

The model looks keys up in lists of pairs in one way, written out at each definition (`memoGet`,
`rbGet`, `assocGet`, `lookupChild`, `childAt`, `CEnv.lookup`; `lk` in `SelectL`): the value of the
first pair whose key matches. All of them unfold to `assoc`, so a lemma here applies to each of them
with `exact`; to `rw` with one, unfold the lookup first. -/

section Assoc
variable {α : Type _} {β : Type _} [BEq α]

abbrev assoc (l : List (α × β)) (k : α) : Option β := (l.find? (fun y => y.1 == k)).map (·.2)

theorem assoc_cons (x : α × β) (l : List (α × β)) (k : α) :
    assoc (x :: l) k = if x.1 == k then some x.2 else assoc l k := by
  unfold assoc; rw [List.find?_cons]; cases x.1 == k <;> rfl

theorem assoc_append (a b : List (α × β)) (k : α) : assoc (a ++ b) k = (assoc a k).or (assoc b k) := by
  unfold assoc; rw [List.find?_append]; cases a.find? (fun y => y.1 == k) <;> rfl

theorem assoc_map_snd {γ : Type _} (f : β → γ) (l : List (α × β)) (k : α) :
    assoc (l.map (fun x => (x.1, f x.2))) k = (assoc l k).map f := by
  unfold assoc; simp only [List.find?_map, Option.map_map]; rfl

theorem assoc_isSome (l : List (α × β)) (k : α) : (assoc l k).isSome = l.any (·.1 == k) := by
  unfold assoc; rw [Option.isSome_map, Bool.eq_iff_iff, List.find?_isSome, List.any_eq_true]

theorem assoc_mem [LawfulBEq α] {l : List (α × β)} {k : α} {v : β} (h : assoc l k = some v) : (k, v) ∈ l := by
  obtain ⟨x, hf, rfl⟩ := Option.map_eq_some_iff.mp h
  have h1 : x.1 = k := by simpa using List.find?_some hf
  exact h1 ▸ List.mem_of_find?_eq_some hf

theorem assoc_eq_none [LawfulBEq α] {l : List (α × β)} {k : α} : assoc l k = none ↔ ∀ v, (k, v) ∉ l := by
  unfold assoc; rw [Option.map_eq_none_iff, List.find?_eq_none]
  exact ⟨fun h v hv => h _ hv (beq_self_eq_true k), fun h p hp e => h p.2 (eq_of_beq e ▸ hp)⟩

theorem assoc_map_const [LawfulBEq α] {γ} (f : γ → α) (v : β) {l : List γ} {a : γ} (ha : a ∈ l) :
    assoc (l.map (fun a => (f a, v))) (f a) = some v := by
  induction ha with rw [List.map_cons, assoc_cons]
  | head => exact if_pos (beq_self_eq_true _)
  | tail _ _ ih => rw [ih, ite_self]

theorem assoc_of_mem [LawfulBEq α] {l : List (α × β)} (hn : (l.map (·.1)).Nodup) {x : α × β} (hx : x ∈ l) :
    assoc l x.1 = some x.2 :=
  congrArg (Option.map Prod.snd) (find?_of_mem_nodup_map Prod.fst hn hx)

theorem assoc_perm [LawfulBEq α] {l l' : List (α × β)} (p : l'.Perm l) (nd : (l.map (·.1)).Nodup) (k : α) :
    assoc l' k = assoc l k := by
  cases h : assoc l k with
  | some v => exact assoc_of_mem ((p.map _).nodup_iff.mpr nd) (p.mem_iff.mpr (assoc_mem h))
  | none => exact assoc_eq_none.mpr fun v hv => assoc_eq_none.mp h v (p.mem_iff.mp hv)

end Assoc

theorem mem_tagInsert (ts : List Nat) (t t' : Nat) : t' ∈ tagInsert ts t ↔ t' ∈ ts ∨ t' = t := by
  unfold tagInsert
  split
  · exact (or_iff_left_of_imp fun e => e ▸ List.contains_iff_mem.mp ‹_›).symm
  · rw [List.mem_append, List.mem_singleton]

end Fiddle
