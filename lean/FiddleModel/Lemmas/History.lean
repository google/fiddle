/-
History invariants of the ArgStore model (C16): sequence numbers, "last entry = current
value", suspension.  Each is shown closed under the five primitive logged steps
(`Cfg.ClosedCore`), hence under every edit.
-/
import FiddleModel.Lemmas.Dict
import FiddleModel.Lemmas.Ops

namespace Fiddle

def SeqOK (c : Cfg) : Prop :=
  c.hist.Pairwise (fun a b => a.seq < b.seq) ∧ ∀ e ∈ c.hist, e.seq < c.ctr

theorem SeqOK_log {c : Cfg} {k : Key} {h : HVal} (hc : SeqOK c) : SeqOK (c.log k h) := by
  unfold Cfg.log
  split
  · -- the old entries lie below the counter, the new one carries it
    exact ⟨List.pairwise_append.mpr
        ⟨hc.1, List.pairwise_singleton .., fun a ha => List.forall_mem_singleton.mpr (hc.2 a ha)⟩,
      List.forall_mem_append.mpr
        ⟨fun e he => Nat.lt_succ_of_lt (hc.2 e he), List.forall_mem_singleton.mpr (Nat.lt_succ_self _)⟩⟩
  · exact hc

theorem SeqOK_core : Cfg.ClosedCore SeqOK := .of_log fun h => SeqOK_log h

def HVal.isValue : HVal → Bool
  | .val _ => true
  | .deleted => true
  | .tags _ => false

/-- The last NEW_VALUE entry (a value or the deletion marker) logged for `k`. -/
def lastValue (h : List HEntry) (k : Key) : Option HVal :=
  ((h.filter (fun e => e.key == k && e.new.isValue)).getLast?).map (·.new)

/-- The last UPDATE_TAGS entry logged for `k`. -/
def lastTags (h : List HEntry) (k : Key) : Option HVal :=
  ((h.filter (fun e => e.key == k && !e.new.isValue)).getLast?).map (·.new)

theorem lastValue_append (h : List HEntry) (e : HEntry) (k : Key) :
    lastValue (h ++ [e]) k = if e.key = k ∧ e.new.isValue = true then some e.new else lastValue h k := by
  unfold lastValue
  rw [List.getLast?_filter_concat, apply_ite (Option.map _)]
  simp only [Bool.and_eq_true, beq_iff_eq, Option.map_some]

theorem lastTags_append (h : List HEntry) (e : HEntry) (k : Key) :
    lastTags (h ++ [e]) k = if e.key = k ∧ e.new.isValue = false then some e.new else lastTags h k := by
  unfold lastTags
  rw [List.getLast?_filter_concat, apply_ite (Option.map _)]
  simp only [Bool.and_eq_true, beq_iff_eq, Bool.not_eq_true', Option.map_some]

def fnKey : Key := .name "__fn_or_cls__"

/-- The value part of the history is faithful (for argument keys; `__fn_or_cls__` has history
    entries of its own but is not an argument): the last NEW_VALUE entry of every key is its
    current value, or the deletion marker (or nothing at all) if it is unset. -/
def ValuesFaithful (c : Cfg) : Prop :=
  ∀ k, k ≠ fnKey → match c.args.get? k with
    | some v => lastValue c.hist k = some (.val v)
    | none => lastValue c.hist k = none ∨ lastValue c.hist k = some .deleted

/-- The tag part read off the stored dict.  Not preserved by the `logTags` step (on a key without
    a stored tag set it logs `[]`, `get?` stays `none`): the invariant uses `TagsFaithfulT`. -/
def TagsFaithful (c : Cfg) : Prop :=
  ∀ k ts, lastTags c.hist k = some (.tags ts) → c.tags.get? k = some ts

structure HistInv (c : Cfg) : Prop where
  nodup : c.args.NodupKeys
  seq : SeqOK c
  vals : c.tracking = true → ValuesFaithful c

/-- The `plain` and the `del` step at once, by way of the new store `a`. -/
theorem HistInv_write {c : Cfg} {k : Key} {a : Dict Val} {e : HVal} (hc : HistInv c)
    (hn : a.NodupKeys) (hk : e = match a.get? k with | some v => .val v | none => .deleted)
    (ho : ∀ {k'}, k ≠ k' → a.get? k' = c.args.get? k') :
    HistInv (({ c with args := a } : Cfg).log k e) where
  nodup := (log_args ..).symm ▸ hn
  seq := SeqOK_log hc.seq
  vals ht k' hk' := by
    rw [log_tracking] at ht
    rw [log_args, log_hist_on _ _ ht, lastValue_append]
    by_cases h : k = k'
    · subst h hk
      cases a.get? k <;> simp [HVal.isValue]
    · rw [if_neg (fun e => h e.1), ho h]
      exact hc.vals ht k' hk'

theorem HistInv_log {c : Cfg} {t : Dict (List Nat)} {k : Key} {e : HVal}
    (hk : e.isValue = false ∨ k = fnKey) (hc : HistInv c) :
    HistInv (({ c with tags := t } : Cfg).log k e) where
  nodup := (log_args ..).symm ▸ hc.nodup
  seq := SeqOK_log hc.seq
  vals ht k' hk' := by
    rw [log_tracking] at ht
    rw [log_args, log_hist_on _ _ ht, lastValue_append, if_neg]
    · exact hc.vals ht k' hk'
    · rintro ⟨rfl, hv⟩
      rcases hk with hk | hk
      · rw [hk] at hv; cases hv
      · exact hk' hk

theorem HistInv_core : Cfg.ClosedCore HistInv where
  plain hc := HistInv_write hc hc.nodup.set (by rw [Dict.get?_set_same])
    Dict.get?_set_other
  del hc := HistInv_write hc hc.nodup.del (by rw [Dict.get?_del_same hc.nodup])
    Dict.get?_del_other
  setTags := HistInv_log (.inl rfl)
  logTags := HistInv_log (.inl rfl)
  logFn := HistInv_log (.inr rfl)

theorem nodup_core : Cfg.ClosedCore (fun c => c.args.NodupKeys) where
  plain h := (log_args ..).symm ▸ h.set
  del h := (log_args ..).symm ▸ h.del
  setTags h := (log_args ..).symm ▸ h
  logTags h := (log_args ..).symm ▸ h
  logFn h := (log_args ..).symm ▸ h

theorem tracking_core (b : Bool) : Cfg.ClosedCore (fun c => c.tracking = b) :=
  .of_log fun e => (log_tracking ..).trans e

def Silent (h0 : List HEntry) (n0 : Nat) (c : Cfg) : Prop :=
  c.tracking = false ∧ c.hist = h0 ∧ c.ctr = n0

theorem Silent_core (h0 : List HEntry) (n0 : Nat) : Cfg.ClosedCore (Silent h0 n0) :=
  .of_log fun hs => by
    rw [log_off]
    · exact hs
    · exact hs.1

end Fiddle
