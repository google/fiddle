/-
Independence of changes: reordering a change list by moving commuting steps past each other
does not change the result of a successful application.
-/
import FiddleModel.Lemmas.DiffL

namespace Fiddle.Diff
open Fiddle

def MovesBefore (sg : Sigs) (q p : Change) : Prop :=
  ∀ c c1 c2, apply1 sg c p = .ok c1 → apply1 sg c1 q = .ok c2 →
    ∃ c1', apply1 sg c q = .ok c1' ∧ apply1 sg c1' p = .ok c2

variable {sg : Sigs}

def Refines (sg : Sigs) (l l' : List Change) : Prop :=
  ∀ c r, applyAll sg c l = .ok r → applyAll sg c l' = .ok r

namespace Refines
variable {a a' b b' l l' l'' : List Change}

theorem refl (l : List Change) : Refines sg l l := fun _ _ h => h

theorem trans (h₁ : Refines sg l l') (h₂ : Refines sg l' l'') : Refines sg l l'' :=
  fun c r h => h₂ c r (h₁ c r h)

theorem append (h₁ : Refines sg a a') (h₂ : Refines sg b b') : Refines sg (a ++ b) (a' ++ b') := by
  intro c r h
  obtain ⟨c1, ha, hb⟩ := applyAll_append_ok.mp h
  exact applyAll_append_ok.mpr ⟨c1, h₁ c c1 ha, h₂ c1 r hb⟩

theorem cons (x : Change) (h : Refines sg l l') : Refines sg (x :: l) (x :: l') :=
  append (refl [x]) h

end Refines

theorem MovesBefore.refines {q p : Change} (h : MovesBefore sg q p) : Refines sg [p, q] [q, p] := by
  intro c r hr
  obtain ⟨c1, hp, hr⟩ := applyAll_cons_ok.mp hr
  obtain ⟨c2, hq, hr⟩ := applyAll_cons_ok.mp hr
  obtain ⟨c1', hq', hp'⟩ := h c c1 c2 hp hq
  exact applyAll_cons_ok.mpr ⟨c1', hq', applyAll_cons_ok.mpr ⟨c2, hp', hr⟩⟩

theorem move_front {q : Change} {ps : List Change} (hm : ∀ p ∈ ps, MovesBefore sg q p) :
    Refines sg (ps ++ [q]) (q :: ps) := by
  induction ps with
  | nil => exact .refl _
  | cons p ps ih =>
    obtain ⟨h0, hm⟩ := List.forall_mem_cons.mp hm
    exact ((ih hm).cons p).trans (h0.refines.append (.refl ps))

theorem move_back {p : Change} {qs : List Change} (hm : ∀ q ∈ qs, MovesBefore sg q p) :
    Refines sg (p :: qs) (qs ++ [p]) := by
  induction qs with
  | nil => exact .refl _
  | cons q qs ih =>
    obtain ⟨h0, hm⟩ := List.forall_mem_cons.mp hm
    exact (h0.refines.append (.refl qs)).trans ((ih hm).cons q)

theorem partition_refines {P Q PQ : Change → Bool} (hPQ : ∀ x, PQ x = (P x || Q x))
    (hdisj : ∀ x, (P x && Q x) = false) {L : List Change}
    (hm : ∀ p ∈ L, ∀ q ∈ L, P p = true → Q q = true → MovesBefore sg q p) :
    Refines sg (L.filter P ++ L.filter Q) (L.filter PQ) ∧
      Refines sg (L.filter PQ) (L.filter Q ++ L.filter P) := by
  induction L with
  | nil => exact ⟨.refl _, .refl _⟩
  | cons x xs ih =>
    obtain ⟨ih₁, ih₂⟩ :=
      ih fun p hp q hq => hm p (List.mem_cons_of_mem _ hp) q (List.mem_cons_of_mem _ hq)
    have hx := List.mem_cons_self (a := x) (l := xs)
    cases hp : P x with
    | true =>
      have hq := Bool.and_eq_false_imp.mp (hdisj x) hp
      simp only [List.filter_cons, hPQ, hp, hq, Bool.or_false, if_true, Bool.false_eq_true,
        if_false]
      refine ⟨ih₁.cons x, ?_⟩
      rw [List.append_cons]
      -- `x` goes behind the `Q` steps of `xs`
      exact (ih₂.cons x).trans ((move_back <| List.forall_mem_filter.mpr fun q hq' =>
        hm x hx q (List.mem_cons_of_mem _ hq') hp).append (.refl _))
    | false =>
      cases hq : Q x with
      | false =>
        simpa only [List.filter_cons, hPQ, hp, hq, Bool.or_false, Bool.false_eq_true, if_false]
          using And.intro ih₁ ih₂
      | true =>
        simp only [List.filter_cons, hPQ, hp, hq, Bool.or_true, if_true, Bool.false_eq_true,
          if_false]
        refine ⟨?_, ih₂.cons x⟩
        rw [List.append_cons]
        -- `x` goes in front of the `P` steps of `xs`
        exact ((move_front <| List.forall_mem_filter.mpr fun p hp' hP =>
          hm p (List.mem_cons_of_mem _ hp') x hx hP hq).append (.refl _)).trans (ih₁.cons x)

theorem moves_removeTag_deleteValue {k : String} {t : Nat} {k' : String} :
    MovesBefore sg (.removeTag k t) (.deleteValue k') := by
  intro c c1 c2 h1 h2
  obtain ⟨hd, rfl⟩ := apply1_deleteValue_ok.mp h1
  obtain ⟨ht, rfl⟩ := apply1_removeTag_ok.mp h2
  exact ⟨_, apply1_removeTag_ok.mpr ⟨ht, rfl⟩, apply1_deleteValue_ok.mpr ⟨hd, rfl⟩⟩

/-- Modifying an argument that is there leaves the argument names as they are, and those are all
    the new callable looks at. -/
theorem moves_modifyFn_modifyValue {f k : String} {v : Val} :
    MovesBefore sg (.modifyFn f) (.modifyValue k v) := by
  intro c c1 c2 h1 h2
  obtain ⟨hc, rfl⟩ := apply1_modifyValue_ok.mp h1
  obtain ⟨hall, rfl⟩ := apply1_modifyFn_ok.mp h2
  rw [Dict.keys_set_of_contains hc] at hall
  exact ⟨_, apply1_modifyFn_ok.mpr ⟨hall, rfl⟩, apply1_modifyValue_ok.mpr ⟨hc, rfl⟩⟩

/-- Two `set`s of different keys commute when one of the keys is there already. -/
theorem moves_setValue_modifyValue {k k' : String} {v v' : Val} (hne : k ≠ k') :
    MovesBefore sg (.setValue k' v') (.modifyValue k v) := by
  intro c c1 c2 h1 h2
  obtain ⟨hc, rfl⟩ := apply1_modifyValue_ok.mp h1
  obtain ⟨hacc, rfl⟩ := apply1_setValue_ok.mp h2
  refine ⟨_, apply1_setValue_ok.mpr ⟨hacc, rfl⟩,
    apply1_modifyValue_ok.mpr ⟨Dict.contains_set hc, ?_⟩⟩
  exact congrArg (fun a => { c with args := a })
    (Dict.set_comm (fun e => hne (Key.name.inj e)) hc).symm

theorem moves_addTag_modifyValue {k k' : String} {t : Nat} {v : Val} :
    MovesBefore sg (.addTag k t) (.modifyValue k' v) := by
  intro c c1 c2 h1 h2
  obtain ⟨hc, rfl⟩ := apply1_modifyValue_ok.mp h1
  obtain ⟨hacc, rfl⟩ := apply1_addTag_ok.mp h2
  exact ⟨_, apply1_addTag_ok.mpr ⟨hacc, rfl⟩, apply1_modifyValue_ok.mpr ⟨hc, rfl⟩⟩

theorem moves_addTag_setValue {k k' : String} {t : Nat} {v : Val} :
    MovesBefore sg (.addTag k t) (.setValue k' v) := by
  intro c c1 c2 h1 h2
  obtain ⟨hc, rfl⟩ := apply1_setValue_ok.mp h1
  obtain ⟨hacc, rfl⟩ := apply1_addTag_ok.mp h2
  exact ⟨_, apply1_addTag_ok.mpr ⟨hacc, rfl⟩, apply1_setValue_ok.mpr ⟨hc, rfl⟩⟩

namespace Change

def isD : Change → Bool | .deleteValue _ => true | _ => false
def isR : Change → Bool | .removeTag _ _ => true | _ => false
def isM : Change → Bool | .modifyValue _ _ => true | _ => false
def isS : Change → Bool | .setValue _ _ => true | _ => false
def isA : Change → Bool | .addTag _ _ => true | _ => false
def isFM (c : Change) : Bool := c.isM || c.isFn
def isMS (c : Change) : Bool := c.isM || c.isS

end Change

theorem phased_five (chs : List Change) :
    phased ["DeleteValue", "RemoveTag", "ModifyValue", "SetValue", "AddTag"] chs =
      chs.filter Change.isD ++ (chs.filter Change.isR ++ (chs.filter Change.isFM ++
        (chs.filter Change.isS ++ chs.filter Change.isA))) := by
  have h : ∀ x : Change, (x.opType == "DeleteValue") = x.isD ∧ (x.opType == "RemoveTag") = x.isR ∧
      (x.opType == "ModifyValue") = x.isFM ∧ (x.opType == "SetValue") = x.isS ∧
      (x.opType == "AddTag") = x.isA := by
    intro x
    cases x <;> simp [Change.opType, Change.isD, Change.isR, Change.isFM, Change.isFn, Change.isM,
      Change.isS, Change.isA]
  simp only [phased, List.flatMap_cons, List.flatMap_nil, List.append_nil, h]

/-- `hMS` cannot be dropped: a ModifyValue and a SetValue of the same argument do not commute, and
    the fiddler runs them in diff order where `_apply_changes` runs every ModifyValue first. -/
theorem regroup_refines {chs : List Change}
    (hMS : ∀ k v k' v', Change.modifyValue k v ∈ chs → Change.setValue k' v' ∈ chs → k ≠ k') :
    Refines sg (phased ["DeleteValue", "RemoveTag", "ModifyValue", "SetValue", "AddTag"] chs)
      (regroup chs) := by
  have hDL : Refines sg (chs.filter Change.isD ++ chs.filter Change.isR)
      (chs.filter Change.isDeleteLike) :=
    (partition_refines (fun x => by cases x <;> rfl) (fun x => by cases x <;> rfl)
      fun p _ q _ hp hq => by
        cases p <;> cases hp
        cases q <;> cases hq
        exact moves_removeTag_deleteValue).1
  have hFM : Refines sg (chs.filter Change.isFM) (chs.filter Change.isFn ++ chs.filter Change.isM) :=
    (partition_refines (fun _ => rfl) (fun x => by cases x <;> rfl)
      fun p _ q _ hp hq => by
        cases p <;> cases hp
        cases q <;> cases hq
        exact moves_modifyFn_modifyValue).2
  have hMS' : Refines sg (chs.filter Change.isM ++ chs.filter Change.isS) (chs.filter Change.isMS) :=
    (partition_refines (fun _ => rfl) (fun x => by cases x <;> rfl)
      fun p hp' q hq' hp hq => by
        cases p <;> cases hp
        cases q <;> cases hq
        exact moves_setValue_modifyValue (hMS _ _ _ _ hp' hq')).1
  have hAL : Refines sg (chs.filter Change.isMS ++ chs.filter Change.isA)
      (chs.filter Change.isAssignLike) :=
    (partition_refines (fun x => by cases x <;> rfl) (fun x => by cases x <;> rfl)
      fun p _ q _ hp hq => by
        cases q <;> cases hq
        cases p <;> cases hp
        · exact moves_addTag_modifyValue
        · exact moves_addTag_setValue).1
  rw [phased_five, regroup, List.append_assoc, ← List.append_assoc (chs.filter Change.isD)]
  refine hDL.append (.trans (hFM.append (.refl _)) ?_)
  rw [List.append_assoc, ← List.append_assoc (chs.filter Change.isM)]
  exact (Refines.refl _).append ((hMS'.append (.refl _)).trans hAL)

end Fiddle.Diff
