/-
Selections: lookups (`lk`) after `upsert` / `upsertAll`; what `.set`, `.replace` and `set_tagged`
leave at each index of the heap.
-/
import FiddleModel.Lemmas.Traverse

namespace Fiddle

def lk (ch : List (PElem × GVal)) (q : PElem) : Option GVal := (ch.find? (fun c => c.1 == q)).map (·.2)

theorem lk_nil (q : PElem) : lk [] q = none := rfl

theorem lk_cons (c : PElem × GVal) (cs : List (PElem × GVal)) (q : PElem) :
    lk (c :: cs) q = if c.1 = q then some c.2 else lk cs q :=
  (assoc_cons c cs q).trans (ite_cond_congr (propext beq_iff_eq))

theorem lk_append (a b : List (PElem × GVal)) (q : PElem) : lk (a ++ b) q = (lk a q).or (lk b q) :=
  assoc_append a b q

theorem lk_setKey (ch : List (PElem × GVal)) (pe q : PElem) (v : GVal) :
    lk (ch.map (fun c => if c.1 == pe then (pe, v) else c)) q =
      if pe = q then (lk ch pe).map (fun _ => v) else lk ch q := by
  induction ch with
  | nil => exact (ite_self none).symm
  | cons c cs ih =>
    rw [List.map_cons, lk_cons, ih, lk_cons, lk_cons]
    by_cases hc : c.1 = pe <;> by_cases hq : pe = q
    · simp [hc, hq]
    · simp [hc, hq]
    · subst hq; simp [hc]
    · simp [hc, hq]

theorem lk_upsert (ch : List (PElem × GVal)) (pe q : PElem) (v : GVal) :
    lk (upsert ch pe v) q = if pe = q then some v else lk ch q := by
  have hs : (lk ch pe).isSome = ch.any (fun c => c.1 == pe) := assoc_isSome ch pe
  fun_cases upsert ch pe v
  case case1 hany =>
    obtain ⟨w, hw⟩ := Option.isSome_iff_exists.mp (hs.trans hany)
    rw [lk_setKey, hw]; rfl
  case case2 hany =>
    rw [lk_append, lk_cons, lk_nil]
    split
    · rename_i hq; rw [← hq, Option.not_isSome_iff_eq_none.mp (mt hs.symm.trans hany)]; rfl
    · exact Option.or_none

theorem upsert_keys (ch : List (PElem × GVal)) (pe : PElem) (v : GVal) :
    (upsert ch pe v).map (·.1) =
      if ch.any (fun c => c.1 == pe) then ch.map (·.1) else ch.map (·.1) ++ [pe] := by
  fun_cases upsert ch pe v
  case case1 hany =>
    rw [if_pos hany, List.map_map]
    -- an overwritten pair had the key `pe` already
    exact List.map_congr_left fun c _ =>
      (apply_ite Prod.fst ..).trans (ite_eq_right_iff.mpr fun hc => (eq_of_beq hc).symm)
  case case2 hany => rw [if_neg hany, List.map_append]; rfl

theorem upsert_keys_sub (ch : List (PElem × GVal)) (pe : PElem) (v : GVal) :
    ∀ k ∈ ch.map (·.1), k ∈ (upsert ch pe v).map (·.1) := by
  intro k hk
  rw [upsert_keys]; split
  · exact hk
  · exact List.mem_append_left _ hk

theorem lk_upsertAll (kvs ch : List (PElem × GVal)) (q : PElem) :
    lk (upsertAll ch kvs) q = (lk kvs.reverse q).or (lk ch q) := by
  induction kvs generalizing ch with
  | nil => rfl
  | cons kv kvs ih =>
    rw [upsertAll, List.foldl_cons, ← upsertAll, ih, List.reverse_cons, lk_append, lk_cons, lk_nil,
      lk_upsert, Option.or_assoc]
    split <;> rfl

theorem lk_upsertAll_other {kvs : List (PElem × GVal)} (ch : List (PElem × GVal)) {q : PElem}
    (hq : ∀ kv ∈ kvs, kv.1 ≠ q) : lk (upsertAll ch kvs) q = lk ch q := by
  have : lk kvs.reverse q = none := assoc_eq_none.mpr fun v hv => hq (q, v) (List.mem_reverse.mp hv) rfl
  rw [lk_upsertAll, this, Option.none_or]

theorem lk_upsertAll_const {α} (f : α → PElem) (v : GVal) (ch : List (PElem × GVal)) {l : List α} {a : α}
    (ha : a ∈ l) : lk (upsertAll ch (l.map (fun a => (f a, v)))) (f a) = some v := by
  rw [lk_upsertAll, ← List.map_reverse]
  exact Option.or_eq_some_iff.mpr (.inl (assoc_map_const f v (List.mem_reverse.mpr ha)))

theorem setOn_get (h : Heap) (ids : List Nat) (kvs : List (PElem × GVal)) (k : Nat) :
    (h.setOn ids kvs)[k]? = (h[k]?).map (fun o =>
      if ids.contains k then { o with children := upsertAll o.children kvs } else o) :=
  getElem?_map_zipIdx _ h k

theorem setOn_length (h : Heap) (ids : List Nat) (kvs : List (PElem × GVal)) :
    (h.setOn ids kvs).length = h.length := by
  rw [Heap.setOn, List.length_map, List.length_zipIdx]

theorem replaceRefs_get (h : Heap) (ids : List Nat) (v : GVal) (k : Nat) :
    (h.replaceRefs ids v)[k]? =
      (h[k]?).map (fun o => { o with children := o.children.map (replaceChild ids v) }) :=
  List.getElem?_map

theorem setTagged_get (h : Heap) (root : GVal) (sub : Nat → Nat → Bool) (T : Nat) (v : GVal)
    (k : Nat) :
    (h.setTagged root sub T v)[k]? = (h[k]?).map (fun o =>
      if (reachableIds h root).contains k && o.kind == .cfg then
        { o with children :=
            upsertAll o.children ((taggedKeys sub T o).map (fun key => (pelemOfKey key, v))) }
      else o) :=
  getElem?_map_zipIdx _ h k

theorem replaceChild_eq (ids : List Nat) (v : GVal) (c : PElem × GVal) :
    replaceChild ids v c = (c.1, replaceRoot ids v c.2) := by
  obtain ⟨pe, x⟩ := c
  cases x with
  | atom t => rfl
  | ref j => exact (apply_ite (Prod.mk pe) ..).symm

theorem replaceRoot_avoids {ids : List Nat} {v x : GVal} {j : Nat} (hv : ∀ j, v = .ref j → j ∉ ids)
    (hj : replaceRoot ids v x = .ref j) : j ∉ ids := by
  revert hj
  fun_cases replaceRoot ids v x
  case case1 => exact hv j
  case case2 hk => rintro ⟨⟩; exact fun hm => hk (List.contains_iff_mem.mpr hm)
  case case3 => nofun

end Fiddle
