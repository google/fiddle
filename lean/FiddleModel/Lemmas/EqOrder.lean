/-
`==` ignores the order in which dict entries and Buildable arguments were inserted.

`Reordered h h'`: `h'` lists the children of dict-like objects (dicts, defaultdicts, Buildables)
in another order; sequences keep theirs.  Both halves of `buildableEq` give the same answer on
reordered heaps: the value comparison because it looks children up by key, the sharing walk
because the correspondence it decides (`Lemmas/ShareL.lean`) does not mention any order.
-/
import FiddleModel.Lemmas.ShareL

namespace Fiddle

theorem any_perm {α} {l1 l2 : List α} (p : l1.Perm l2) (f : α → Bool) : l1.any f = l2.any f :=
  p.any_eq

structure Reordered (h h' : Heap) : Prop where
  len : h'.length = h.length
  obj : ∀ (i : Nat) (o : GObj), h[i]? = some o → ∃ o' : GObj, h'[i]? = some o' ∧ o'.kind = o.kind ∧ o'.ty = o.ty ∧
    o'.bk = o.bk ∧ o'.children.Perm o.children ∧
    (childrenWithDefaults o').Perm (childrenWithDefaults o) ∧
    (o.seqLike = true → o'.children = o.children)

structure GObj.Reord (o o' : GObj) : Prop where
  kind : o'.kind = o.kind
  ty : o'.ty = o.ty
  bk : o'.bk = o.bk
  perm : o'.children.Perm o.children
  cwd : (childrenWithDefaults o').Perm (childrenWithDefaults o)
  seq : o.seqLike = true → o'.children = o.children

theorem GObj.Reord.cwd_eq {o o' : GObj} (r : o.Reord o') (hs : o.seqLike = true) :
    childrenWithDefaults o' = childrenWithDefaults o := by
  rw [cwd_noncfg (GObj.seqLike_not_cfg hs), cwd_noncfg (r.kind ▸ GObj.seqLike_not_cfg hs), r.seq hs]

section
variable {h h' h1 h1' h2 h2' : Heap}

theorem Reordered.get (r : Reordered h h') {i : Nat} {o : GObj} (ho : h[i]? = some o) :
    ∃ o', h'[i]? = some o' ∧ o.Reord o' := by
  obtain ⟨o', ho', hk, ht, hb, hp, hc, hs⟩ := r.obj i o ho
  exact ⟨o', ho', hk, ht, hb, hp, hc, hs⟩

theorem Reordered.symm (r : Reordered h h') : Reordered h' h := by
  refine ⟨r.len.symm, fun i o' ho' => ?_⟩
  have hi : i < h.length := r.len ▸ (List.getElem?_eq_some_iff.mp ho').1
  obtain ⟨o2, ho2, hk, ht, hb, hp, hc, hs⟩ := r.obj i _ (List.getElem?_eq_getElem hi)
  cases ho'.symm.trans ho2
  exact ⟨h[i], List.getElem?_eq_getElem hi, hk.symm, ht.symm, hb.symm, hp.symm, hc.symm,
    fun q => (hs (GObj.seqLike_congr hk ▸ q)).symm⟩

theorem isInternable_reordered (r : Reordered h h') (fuel : Nat) (v : GVal) :
    isInternable h' fuel v = isInternable h fuel v := by
  fun_induction isInternable h fuel v
  case case1 => exact isInternable_atom ..
  case case2 => rfl
  case case3 ho ih =>
    obtain ⟨o', ho', ro⟩ := r.get ho
    rw [isInternable, ho']
    simp only [ro.kind, ro.perm.all_eq, ih]
  case case4 ho =>
    rw [List.getElem?_eq_none_iff, ← r.len] at ho
    rw [isInternable, List.getElem?_eq_none_iff.mpr ho]

theorem skipB_reordered (r1 : Reordered h1 h1') (r2 : Reordered h2 h2') (v w : GVal) :
    skipB h1' h2' v w = skipB h1 h2 v w := by
  unfold skipB
  rw [r1.len, r2.len, isInternable_reordered r1, isInternable_reordered r2]

theorem Rec.reordered (r1 : Reordered h1 h1') (r2 : Reordered h2 h2')
    {B : List (Nat × Nat)} {v w : GVal} (h : Rec h1 h2 B v w) : Rec h1' h2' B v w :=
  h.imp_left fun h => by rw [skipB_reordered r1 r2]; exact h

theorem Corr.reordered (r1 : Reordered h1 h1') (r2 : Reordered h2 h2') (w2 : h2.EqWF)
    {B : List (Nat × Nat)} (h : Corr h1 h2 B) : Corr h1' h2' B := by
  refine ⟨h.fun1, h.fun2, fun p hp => ?_⟩
  obtain ⟨a, b, ha, hb, hok⟩ := h.closed p hp
  obtain ⟨a', ha', ra⟩ := r1.get ha
  obtain ⟨b', hb', rb⟩ := r2.get hb
  refine ⟨a', b', ha', hb', ?_⟩
  rw [ra.kind, rb.kind]
  exact hok.imp_right (Or.imp_right fun m =>
    (MapRel.perm ra.cwd rb.cwd (w2.keys _ b hb) m).imp fun _ _ _ _ => Rec.reordered r1 r2)

theorem NodeEq.reordered {R : GVal → GVal → Prop} {a a' b b' : GObj} (ra : a.Reord a')
    (rb : b.Reord b') (nb : ((childrenWithDefaults b).map (·.1)).Nodup) (h : NodeEq R a b) :
    NodeEq R a' b' := by
  obtain ⟨⟨hk, ht, hb⟩, h⟩ := h
  refine ⟨⟨by rw [ra.kind, rb.kind, hk], by rw [ra.ty, rb.ty, ht], by rw [ra.bk, rb.bk, hb]⟩, ?_⟩
  rw [ra.kind, GObj.seqLike_congr ra.kind]
  refine h.imp_right ?_
  cases hq : a.seqLike with
  | true =>
    rw [ra.cwd_eq hq, rb.cwd_eq (GObj.seqLike_congr hk ▸ hq)]
    exact id
  | false => exact MapRel.perm ra.cwd rb.cwd nb

theorem valEq_reordered_imp (r1 : Reordered h1 h1') (r2 : Reordered h2 h2') (w2 : h2.EqWF)
    {f : Nat} {v w : GVal} (e : valEq h1 h2 f v w = true) : valEq h1' h2' f v w = true := by
  refine valEq_induct ?_ ?_ f v w e
  · exact fun _ _ => valEq_atom_self ..
  · intro f i j a b ha hb n
    obtain ⟨a', ha', ra⟩ := r1.get ha
    obtain ⟨b', hb', rb⟩ := r2.get hb
    exact valEq_ref_ref.mpr ⟨a', b', ha', hb', n.reordered ra rb (w2.keys j b hb)⟩

theorem buildableEq_reordered (r1 : Reordered h1 h1') (r2 : Reordered h2 h2') (w1 : h1.EqWF)
    (w1' : h1'.EqWF) (w2 : h2.EqWF) {x y : GVal} (hx : ∀ i, x = .ref i → i < h1.length)
    (e : buildableEq h1 h2 x y = true) : buildableEq h1' h2' x y = true := by
  obtain ⟨hv, B, hB, hr⟩ := (buildableEq_iff w1 hx).mp e
  refine (buildableEq_iff w1' (r1.len ▸ hx)).mpr
    ⟨?_, B, Corr.reordered r1 r2 w2 hB, Rec.reordered r1 r2 hr⟩
  rw [r1.len, r2.len]
  exact valEq_reordered_imp r1 r2 w2 hv

end

end Fiddle
