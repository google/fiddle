/-
The full edit alphabet of C16 (`Op2`): the edits of C03 (`Op`), the tag edits,
`materialize_defaults`, `assign`, `copy_with` (followed on the copy) and `update_callable` (which
switches the signature the later operations are interpreted against).

A predicate closed under the five primitive logged steps (`Cfg.ClosedCore`) is preserved by
every such operation, hence by every history.
-/
import FiddleModel.Lemmas.Ops

namespace Fiddle

inductive Op2
  | edit (o : Op)
  | addTag (k : Key) (t : Nat)
  | removeTag (k : Key) (t : Nat)
  | clearTags (k : Key)
  | setTags (k : Key) (ts : List Nat)
  | materialize
  | assign (kvs : List (String × Val))
  | copyWith (kvs : List (String × Val))
  | updateCallable (newSig : Sig) (drop : Bool)

def Cfg.applyOp2 (s : Sig) (c : Cfg) : Op2 → Except Err (Sig × Cfg)
  | .edit o => (c.applyOp s o).map (fun c' => (s, c'))
  | .addTag k t => (c.addTag s k t).map (fun c' => (s, c'))
  | .removeTag k t => (c.removeTag s k t).map (fun c' => (s, c'))
  | .clearTags k => (c.clearTags s k).map (fun c' => (s, c'))
  | .setTags k ts => (c.setTags s k ts).map (fun c' => (s, c'))
  | .materialize => (c.materializeDefaults s).map (fun c' => (s, c'))
  | .assign kvs => .ok (s, c.assignAll s kvs)
  -- `copy_with`: the edits are made on a shallow copy, which replaces the original in the
  -- history only if every name is accepted (a failing `copy_with` leaves the original in use)
  | .copyWith kvs => .ok (s, if c.assignOk s kvs then c.assignAll s kvs else c)
  | .updateCallable ns drop => (Cfg.updateCallable ns c drop).map (fun c' => (ns, c'))

/-- A rejected operation leaves the state as it was (in the model `materialize_defaults` too can
    be rejected, e.g. under a signature with a default on `*args`, which Python does not produce);
    an `assign` that raises is not one: it keeps the edits made before (`assignAll`). -/
def Cfg.run2 : Sig × Cfg → List Op2 → Sig × Cfg
  | sc, [] => sc
  | sc, o :: r =>
    match sc.2.applyOp2 sc.1 o with
    | .ok sc' => Cfg.run2 sc' r
    | .error _ => Cfg.run2 sc r

namespace Cfg
variable {P : Cfg → Prop} {s : Sig} {c c' : Cfg}

theorem materializeLoop_closed (hP : Closed P) {ps : List Param} {i : Nat} {pf : Bool}
    (h : materializeLoop s ps i pf c = .ok c') (hc : P c) : P c' := by
  fun_induction materializeLoop s ps i pf c
  case case1 => cases h; exact hc
  case case2 ih | case3 ih | case6 ih => exact ih h hc
  case case4 h1 ih => exact ih h (setItem_closed hP h1 hc)
  case case7 h1 ih => exact ih h (setAttr_closed hP h1 hc)
  all_goals cases h

theorem assignAll_closed (hP : Closed P) {kvs : List (String × Val)} (hc : P c) :
    P (c.assignAll s kvs) := by
  fun_induction assignAll s c kvs
  case case2 h1 ih => exact ih (setAttr_closed hP h1 hc)
  all_goals exact hc

theorem dropArgs_closed (hP : Closed P) {ns : List String}
    (h : dropArgs s c ns = .ok c') (hc : P c) : P c' := by
  fun_induction dropArgs s c ns
  case case1 => cases h; exact hc
  case case2 h1 ih => exact ih h (delAttr_closed hP h1 hc)
  case case3 => cases h

section
variable (hP : ClosedCore P) {k : Key}
include hP

theorem addTag_closed {t : Nat} (h : c.addTag s k t = .ok c') (hc : P c) : P c' := by
  revert h
  fun_cases addTag s c k t
  case case1 => nofun
  case case2 => rintro ⟨⟩; exact hP.setTags hc

theorem removeTag_closed {t : Nat} (h : c.removeTag s k t = .ok c') (hc : P c) : P c' := by
  revert h
  fun_cases removeTag s c k t
  case case3 => rintro ⟨⟩; exact hP.setTags hc
  all_goals nofun

theorem clearTags_closed (h : c.clearTags s k = .ok c') (hc : P c) : P c' := by
  revert h
  fun_cases clearTags s c k
  case case1 => nofun
  case case2 => rintro ⟨⟩; exact hP.setTags hc

theorem addTags_closed {ts : List Nat} (h : addTags s k c ts = .ok c') (hc : P c) : P c' := by
  fun_induction addTags s k c ts
  case case1 => cases h; exact hc
  case case2 h1 ih => exact ih h (addTag_closed hP h1 hc)
  case case3 => cases h

theorem setTags_closed {ts : List Nat} (h : c.setTags s k ts = .ok c') (hc : P c) : P c' := by
  revert h
  fun_cases setTags s c k ts
  case case4 h1 _ h2 _ _ =>
    rintro ⟨⟩; exact hP.logTags (addTags_closed hP h2 (clearTags_closed hP h1 hc))
  all_goals nofun

theorem updateCallable_closed {ns : Sig} {drop : Bool}
    (h : updateCallable ns c drop = .ok c') (hc : P c) : P c' := by
  revert h
  fun_cases updateCallable ns c drop
  case case3 r c1 hr =>
    rintro ⟨⟩
    refine hP.logFn ?_
    unfold r at hr
    split at hr
    · cases hr; exact hc
    · split at hr
      · exact dropArgs_closed hP.toClosed hr hc
      · cases hr
  all_goals nofun

theorem applyOp2_closed {s' : Sig} {o : Op2}
    (h : c.applyOp2 s o = .ok (s', c')) (hc : P c) : P c' := by
  cases o
  case assign => cases h; exact assignAll_closed hP.toClosed hc
  case copyWith =>
    cases h
    split
    · exact assignAll_closed hP.toClosed hc
    · exact hc
  all_goals replace h := Except.ok_of_map_pair h
  case edit => exact applyOp_closed hP.toClosed h hc
  case addTag => exact addTag_closed hP h hc
  case removeTag => exact removeTag_closed hP h hc
  case clearTags => exact clearTags_closed hP h hc
  case setTags => exact setTags_closed hP h hc
  case materialize => exact materializeLoop_closed hP.toClosed h hc
  case updateCallable => exact updateCallable_closed hP h hc

theorem run2_closed (ops : List Op2) (sc : Sig × Cfg) (hc : P sc.2) : P (run2 sc ops).2 := by
  fun_induction run2 sc ops
  case case1 => exact hc
  case case2 h ih => exact ih (applyOp2_closed hP h hc)
  case case3 ih => exact ih hc

end

end Cfg
end Fiddle
