/-
The memoized build traversal (`buildVal` / `buildChildren`). One induction (`buildVal_step`) carries
the state invariant `BuildSt.Inv`, the returned value and `Mirror` together; each of the three
branches that write the memo is an instance of `BuildSt.Step.memoize`. `build_spec` is what this
gives for `build`. Totality (`build_total`): on an acyclic configuration whose calls bind, no error
branch is reachable.
-/
import FiddleModel.Model.Graph
import FiddleModel.Lemmas.Basic
import FiddleModel.Lemmas.Traverse

namespace Fiddle

theorem memoGet_cons (m : List (Nat × BVal)) (i j : Nat) (r : BVal) :
    memoGet ((i, r) :: m) j = if i = j then some r else memoGet m j := by
  unfold memoGet
  exact (assoc_cons (i, r) m j).trans (by simp only [beq_iff_eq])

theorem memoGet_nil (i : Nat) : memoGet [] i = none := rfl

/-- Reachability as `build` sees it: through children, but not through an opaque object, which the
    traversal does not enter. -/
inductive Reach (h : Heap) : Nat → Nat → Prop
  | refl (i : Nat) : Reach h i i
  | step (i j k : Nat) (o : GObj) (pv : PElem × GVal) : h[i]? = some o → o.kind ≠ .opaque →
      pv ∈ o.children → pv.2 = .ref j → Reach h j k → Reach h i k

/-- `nodup`, `cfgLogged`, `ordered`, `inj` and `fresh` are what C02 states. `logged` is there for
    `nodup`, `closed` and `cfgLogged` for `ordered` (what a Buildable about to be logged depends on
    is memoized, hence logged), and `stack` says that an object is not memoized while its children
    are traversed, so that memoizing it afterwards disturbs no older entry. -/
structure BuildSt.Inv (h : Heap) (st : BuildSt) : Prop where
  nodup : st.log.Nodup
  logged : ∀ i ∈ st.log, (memoGet st.memo i).isSome
  stack : ∀ j ∈ st.onStack, memoGet st.memo j = none
  closed : ∀ i o, h[i]? = some o → o.kind ≠ .opaque → (memoGet st.memo i).isSome →
    ∀ pv ∈ o.children, ∀ j, pv.2 = .ref j → (memoGet st.memo j).isSome
  cfgLogged : ∀ i o, h[i]? = some o → o.kind = .cfg → (memoGet st.memo i).isSome → i ∈ st.log
  ordered : ∀ pre i post, st.log = pre ++ i :: post → ∀ o, h[i]? = some o →
    ∀ pv ∈ o.children, ∀ j, pv.2 = .ref j → ∀ k ok, Reach h j k → h[k]? = some ok →
      ok.kind = .cfg → k ∈ pre
  fresh : ∀ i a, memoGet st.memo i = some (.built a) → a < st.out.length
  inj : ∀ i j a, memoGet st.memo i = some (.built a) → memoGet st.memo j = some (.built a) →
    i = j

structure BuildSt.Step (h : Heap) (st st' : BuildSt) : Prop where
  inv : st'.Inv h
  stackEq : st'.onStack = st.onStack
  logPrefix : st.log <+: st'.log
  memoMono : ∀ i r, memoGet st.memo i = some r → memoGet st'.memo i = some r
  outPrefix : st.out <+: st'.out

variable {h : Heap} {fails : List Nat} {fuel : Nat} {st st' : BuildSt} {v : GVal} {r : BVal}

theorem BuildSt.inv_init (h : Heap) : BuildSt.Inv h {} := by
  constructor
  case nodup => exact .nil
  case ordered => intro pre _ _ hl; cases pre <;> cases hl
  all_goals intros; contradiction

theorem BuildSt.Inv.reach_memoized (hi : st.Inv h) {j k : Nat}
    (hr : Reach h j k) (hm : (memoGet st.memo j).isSome) : (memoGet st.memo k).isSome := by
  induction hr with
  | refl => exact hm
  | step i j k o pv ho hnop hpv hj _ ih => exact ih (hi.closed i o ho hnop hm pv hpv j hj)

theorem BuildSt.Step.refl (hi : st.Inv h) : BuildSt.Step h st st :=
  ⟨hi, rfl, List.prefix_refl _, fun _ _ h => h, List.prefix_refl _⟩

theorem BuildSt.Step.trans {a b c : BuildSt} (h1 : BuildSt.Step h a b)
    (h2 : BuildSt.Step h b c) : BuildSt.Step h a c :=
  ⟨h2.inv, h2.stackEq.trans h1.stackEq, h1.logPrefix.trans h2.logPrefix,
   fun i r h => h2.memoMono i r (h1.memoMono i r h), h1.outPrefix.trans h2.outPrefix⟩

theorem BuildSt.Inv.push (hi : st.Inv h) {i : Nat}
    (hm : memoGet st.memo i = none) : BuildSt.Inv h { st with onStack := i :: st.onStack } :=
  { hi with stack := List.forall_mem_cons.mpr ⟨hm, hi.stack⟩ }

theorem BuildSt.Inv.memoize (hi : st.Inv h) {i : Nat} {o : GObj} (ho : h[i]? = some o)
    (hnone : memoGet st.memo i = none)
    (hch : o.kind ≠ .opaque → ∀ pv ∈ o.children, ∀ j, pv.2 = .ref j → (memoGet st.memo j).isSome)
    (hmemo : st'.memo = (i, r) :: st.memo)
    (hstack : ∀ j ∈ st'.onStack, j ∈ st.onStack ∧ j ≠ i)
    (hlog : st'.log = if o.kind = .cfg then st.log ++ [i] else st.log)
    (hout : st.out.length ≤ st'.out.length)
    (hr : ∀ a, r = .built a → a = st.out.length ∧ a < st'.out.length) : st'.Inv h := by
  have hnl : i ∉ st.log := fun hin => nomatch hnone ▸ hi.logged i hin
  have self : memoGet st'.memo i = some r := by rw [hmemo, memoGet_cons, if_pos rfl]
  have old : ∀ {k}, k ≠ i → memoGet st'.memo k = memoGet st.memo k := fun hk => by
    rw [hmemo, memoGet_cons, if_neg (Ne.symm hk)]
  have mono : ∀ k, (memoGet st.memo k).isSome → (memoGet st'.memo k).isSome := fun k hk => by
    rwa [old fun e => by rw [e, hnone] at hk; cases hk]
  exact {
    nodup := by
      rw [hlog]
      split
      · exact List.nodup_append.mpr ⟨hi.nodup, List.pairwise_singleton _ i,
          fun a ha b hb e => hnl (List.mem_singleton.mp hb ▸ e ▸ ha)⟩
      · exact hi.nodup
    logged k hk := by
      rw [hlog] at hk
      split at hk
      · rcases List.mem_append.mp hk with hk | e
        · exact mono k (hi.logged k hk)
        · exact List.mem_singleton.mp e ▸ Option.isSome_of_eq_some self
      · exact mono k (hi.logged k hk)
    stack j hj := by
      obtain ⟨hj, hne⟩ := hstack j hj
      rw [old hne]
      exact hi.stack j hj
    closed k ok hk hnk hm pv hpv j hj := by
      by_cases e : k = i
      · subst e
        rw [ho] at hk; cases hk
        exact mono j (hch hnk pv hpv j hj)
      · exact mono j (hi.closed k ok hk hnk (old e ▸ hm) pv hpv j hj)
    cfgLogged k ok hk hkc hm := by
      rw [hlog]
      by_cases e : k = i
      · subst e
        rw [ho] at hk; cases hk
        rw [if_pos hkc]
        exact List.mem_concat_self
      · have := hi.cfgLogged k ok hk hkc (old e ▸ hm)
        split
        · exact List.mem_append_left _ this
        · exact this
    ordered pre k post hl ok hk pv hpv j hj k' ok' hr' hk' hkc := by
      rw [hlog] at hl
      split at hl
      · next hcfg =>
        have : pre ++ [k] <+: st.log ++ [i] := ⟨post, by rw [hl, List.append_assoc]; rfl⟩
        rcases List.prefix_concat_iff.mp this with e | ⟨post', e⟩
        · -- the Buildable logged last: what it depends on is memoized, hence logged, before
          obtain ⟨rfl, rfl⟩ := List.append_singleton_inj.mp e
          rw [ho] at hk; cases hk
          have hnop : o.kind ≠ .opaque := fun e => by rw [hcfg] at e; cases e
          exact hi.cfgLogged k' ok' hk' hkc (hi.reach_memoized hr' (hch hnop pv hpv j hj))
        · exact hi.ordered pre k post' (by rw [← e, List.append_assoc]; rfl) ok hk pv hpv j hj k' ok'
            hr' hk' hkc
      · exact hi.ordered pre k post hl ok hk pv hpv j hj k' ok' hr' hk' hkc
    fresh k a hk := by
      by_cases e : k = i
      · rw [e, self] at hk
        exact (hr a (Option.some.inj hk)).2
      · exact Nat.lt_of_lt_of_le (hi.fresh k a (old e ▸ hk)) hout
    inj k j a hk hj := by
      by_cases ek : k = i <;> by_cases ej : j = i
      · rw [ek, ej]
      · rw [ek, self] at hk
        exact absurd (hi.fresh j a (old ej ▸ hj)) ((hr a (Option.some.inj hk)).1 ▸ Nat.lt_irrefl _)
      · rw [ej, self] at hj
        exact absurd (hi.fresh k a (old ek ▸ hk)) ((hr a (Option.some.inj hj)).1 ▸ Nat.lt_irrefl _)
      · exact hi.inj k j a (old ek ▸ hk) (old ej ▸ hj) }

/-- The memo read as a function on values. A reference it does not hold reads as `.atom "?"`, so
    `r = resultOf memo v` alone does not say that `v` was built; `Built` does. -/
def resultOf (memo : List (Nat × BVal)) : GVal → BVal
  | .atom t => .atom t
  | .ref k => (memoGet memo k).getD (.atom "?")

theorem resultOf_cons_ne {m : List (Nat × BVal)} {i : Nat} (r : BVal) {v : GVal}
    (h : ∀ k, v = .ref k → k ≠ i) : resultOf ((i, r) :: m) v = resultOf m v := by
  cases v with
  | atom t => rfl
  | ref k => rw [resultOf, memoGet_cons, if_neg (Ne.symm (h k rfl))]; rfl

theorem map_resultOf_cons {m : List (Nat × BVal)} {i : Nat} (r : BVal) {cs : List (PElem × GVal)}
    (hnone : memoGet m i = none) (hch : ∀ c ∈ cs, ∀ k, c.2 = .ref k → (memoGet m k).isSome) :
    cs.map (fun c => resultOf ((i, r) :: m) c.2) = cs.map (fun c => resultOf m c.2) :=
  List.map_congr_left fun c hc => resultOf_cons_ne r fun k hk e => by
    have := hch c hc k hk
    rw [e, hnone] at this; cases this

/-- Each `.built j` entry of the memo points at a result object that is the image of its
    configuration object under the memo. Result objects no entry points at are not constrained. -/
def Mirror (h : Heap) (st : BuildSt) : Prop :=
  ∀ i j, memoGet st.memo i = some (.built j) →
    ∃ o, h[i]? = some o ∧ o.kind ≠ .opaque ∧
      ((o.kind = .cfg ∧ ∃ slots var kw, st.out[j]? = some (.call o.ty slots var kw) ∧
          bindBuilt o (o.children.map (fun c => resultOf st.memo c.2)) = .ok (slots, var, kw)) ∨
       (o.kind ≠ .cfg ∧ st.out[j]? = some (.container o.kind o.ty
          ((o.children.map (·.1)).zip (o.children.map (fun c => resultOf st.memo c.2))))))

theorem Mirror.init (h : Heap) : Mirror h {} := nofun

/-- The object `fdl.build` makes for `o` once its children are built to `vals` (`none`: the call
    does not bind). -/
def builtWith (o : GObj) (vals : List BVal) : Option BObj :=
  if o.kind == .cfg then
    match bindBuilt o vals with
    | .ok (slots, var, kw) => some (.call o.ty slots var kw)
    | .error _ => none
  else some (.container o.kind o.ty ((o.children.map (·.1)).zip vals))

def Built (st : BuildSt) (v : GVal) (r : BVal) : Prop :=
  r = resultOf st.memo v ∧ ∀ i, v = .ref i → memoGet st.memo i = some r

theorem Built.ref {i : Nat} (hm : memoGet st.memo i = some r) :
    Built st (.ref i) r :=
  ⟨by simp only [resultOf, hm, Option.getD_some], fun k hk => by cases hk; exact hm⟩

theorem Built.mono (hb : Built st v r) (hs : BuildSt.Step h st st') : Built st' v r := by
  cases v with
  | atom t => exact ⟨hb.1, fun i hi => by cases hi⟩
  | ref i => exact .ref (hs.memoMono i r (hb.2 i rfl))

/-- The one way `buildVal` changes the memo (an opaque object passed through, a container, an
    invoked Buildable): `i ↦ r` after the traversal `sc` below `i`, which ran with `i` on the stack
    (none below an opaque object). -/
theorem BuildSt.Step.memoize {st2 S : BuildSt} {i : Nat} {o : GObj}
    (sc : BuildSt.Step h { st with onStack := i :: st.onStack } st2)
    (hmc : Mirror h st → Mirror h st2) (hns : i ∉ st.onStack) (ho : h[i]? = some o)
    (hch : o.kind ≠ .opaque → ∀ c ∈ o.children, ∀ j, c.2 = .ref j → (memoGet st2.memo j).isSome)
    (hmemo : S.memo = (i, r) :: st2.memo) (hstack : S.onStack = st2.onStack.erase i)
    (hlog : S.log = if o.kind = .cfg then st2.log ++ [i] else st2.log) (hout : st2.out <+: S.out)
    (hr : ∀ a, r = .built a → a = st2.out.length ∧ o.kind ≠ .opaque ∧ ∃ b,
      builtWith o (o.children.map fun c => resultOf st2.memo c.2) = some b ∧ S.out[a]? = some b) :
    BuildSt.Step h st S ∧ Built S (.ref i) r ∧ (Mirror h st → Mirror h S) := by
  have hn2 : memoGet st2.memo i = none := sc.inv.stack i (sc.stackEq ▸ List.mem_cons_self)
  have hstack : S.onStack = st.onStack := by rw [hstack, sc.stackEq]; exact List.erase_cons_head ..
  have self : memoGet S.memo i = some r := by rw [hmemo, memoGet_cons, if_pos rfl]
  have old : ∀ {k}, k ≠ i → memoGet S.memo k = memoGet st2.memo k := fun hk => by
    rw [hmemo, memoGet_cons, if_neg (Ne.symm hk)]
  refine ⟨{
      inv := sc.inv.memoize ho hn2 hch hmemo
        (fun j hj => by
          rw [hstack] at hj
          exact ⟨sc.stackEq ▸ List.mem_cons_of_mem _ hj, fun e => hns (e ▸ hj)⟩)
        hlog hout.length_le fun a e => by
          obtain ⟨ha, _, b, _, hb⟩ := hr a e
          exact ⟨ha, (List.getElem?_eq_some_iff.mp hb).1⟩
      stackEq := hstack
      logPrefix := sc.logPrefix.trans <| by
        rw [hlog]
        split
        · exact List.prefix_append _ _
        · exact List.prefix_refl _
      memoMono k r hk := by
        have := sc.memoMono k r hk
        rwa [old fun e => by rw [e, hn2] at this; cases this]
      outPrefix := sc.outPrefix.trans hout },
    .ref self, fun hm k j hk => ?_⟩
  by_cases e : k = i
  · rw [e, self] at hk
    obtain ⟨_, hnop, b, hb, hj⟩ := hr j (Option.some.inj hk)
    refine ⟨o, e ▸ ho, hnop, ?_⟩
    rw [hmemo, map_resultOf_cons r hn2 (hch hnop)]
    unfold builtWith at hb
    split at hb
    · next hc =>
      split at hb
      · next slots var kw hbb =>
        exact .inl ⟨eq_of_beq hc, slots, var, kw, Option.some.inj hb ▸ hj, hbb⟩
      · cases hb
    · next hc => exact .inr ⟨mt beq_of_eq hc, Option.some.inj hb ▸ hj⟩
  · -- an older entry keeps its mirror fact: its children are memoized, so none of them is `i`
    rw [old e] at hk
    obtain ⟨o', ho', hnop, hd⟩ := hmc hm k j hk
    obtain ⟨t, ht⟩ := hout
    refine ⟨o', ho', hnop, ?_⟩
    rw [hmemo, map_resultOf_cons r hn2 (sc.inv.closed k o' ho' hnop (Option.isSome_of_eq_some hk)),
      ← ht, List.getElem?_append_left (sc.inv.fresh k j hk)]
    exact hd

theorem buildChildren_step_of
    (ihv : ∀ {v path st r st'}, buildVal h fails fuel v path st = .ok (r, st') → st.Inv h →
      BuildSt.Step h st st' ∧ Built st' v r ∧ (Mirror h st → Mirror h st'))
    {cs : List (PElem × GVal)} {path : Path} {rs : List BVal}
    (hb : buildChildren h fails fuel cs path st = .ok (rs, st')) (hi : st.Inv h) :
    BuildSt.Step h st st' ∧ rs = cs.map (fun c => resultOf st'.memo c.2) ∧
      (∀ c ∈ cs, ∀ j, c.2 = .ref j → (memoGet st'.memo j).isSome) ∧
      (Mirror h st → Mirror h st') := by
  induction cs generalizing st rs with
  | nil =>
    rw [buildChildren] at hb
    cases hb
    exact ⟨.refl hi, rfl, fun _ hc => (nomatch hc), id⟩
  | cons c cs ih =>
    rw [buildChildren] at hb
    split at hb
    · cases hb
    · next r st1 h1 =>
      split at hb
      · cases hb
      · next rs' st2 h2 =>
        cases hb
        obtain ⟨s1, b1, m1⟩ := ihv h1 hi
        obtain ⟨s2, hrs, hch, m2⟩ := ih h2 s1.inv
        have b1' := b1.mono s2
        exact ⟨s1.trans s2, by rw [List.map_cons, ← hrs, ← b1'.1],
          List.forall_mem_cons.mpr ⟨fun j hj => Option.isSome_of_eq_some (b1'.2 j hj), hch⟩,
          m2 ∘ m1⟩

/-- One induction over the traversal carries the invariant, the returned value and `Mirror`
    together (`Mirror` is kept only because the invariant holds at every step). -/
theorem buildVal_step {path : Path} (hb : buildVal h fails fuel v path st = .ok (r, st'))
    (hi : st.Inv h) : BuildSt.Step h st st' ∧ Built st' v r ∧ (Mirror h st → Mirror h st') := by
  induction fuel using Nat.strongRecOn generalizing v path st r st' with | _ fuel ih => ?_
  revert r st'
  fun_cases buildVal h fails fuel v path st
  case case2 =>  -- atom
    rintro _ _ ⟨⟩
    exact ⟨.refl hi, ⟨rfl, nofun⟩, id⟩
  case case3 hm =>  -- memo hit
    rintro _ _ ⟨⟩
    exact ⟨.refl hi, .ref hm, id⟩
  case case6 i o ho hop hnone hns =>  -- opaque object
    rintro _ _ ⟨⟩
    have hop : o.kind = .opaque := eq_of_beq hop
    exact BuildSt.Step.memoize (.refl (hi.push hnone)) id (mt List.contains_iff_mem.mpr hns) ho
      (fun hn => absurd hop hn) rfl (List.erase_cons_head ..).symm (if_neg (hop ▸ nofun)).symm
      (List.prefix_refl _) nofun
  case case10 i o ho hnop vals st2 _ hc _ slots var kw hbb _ _ hnone hns _ hch =>  -- Buildable
    rintro _ _ ⟨⟩
    obtain ⟨sc, hvals, chm, hmc⟩ :=
      buildChildren_step_of (ih _ (Nat.lt_succ_self _)) hch (hi.push hnone)
    exact BuildSt.Step.memoize sc hmc (mt List.contains_iff_mem.mpr hns) ho (fun _ => chm) rfl rfl
      (if_pos (eq_of_beq hc)).symm (List.prefix_append _ _) fun a e => by
        cases BVal.built.inj e
        exact ⟨rfl, mt beq_of_eq hnop, _, by rw [← hvals, builtWith, if_pos hc, hbb],
          List.getElem?_concat_length⟩
  case case11 i o ho hnop vals st2 _ hc _ _ _ hnone hns _ hch =>  -- container
    rintro _ _ ⟨⟩
    obtain ⟨sc, hvals, chm, hmc⟩ :=
      buildChildren_step_of (ih _ (Nat.lt_succ_self _)) hch (hi.push hnone)
    exact BuildSt.Step.memoize sc hmc (mt List.contains_iff_mem.mpr hns) ho (fun _ => chm) rfl rfl
      (if_neg (mt beq_of_eq hc)).symm (List.prefix_append _ _) fun a e => by
        cases BVal.built.inj e
        exact ⟨rfl, mt beq_of_eq hnop, _, by rw [← hvals, builtWith, if_neg hc],
          List.getElem?_concat_length⟩
  all_goals rintro _ _ ⟨⟩  -- the error branches

/-- `fdl.build` that returned: the statement the C02 theorems are projections of. -/
theorem build_spec {root : GVal} (hb : build h fails root = .ok (r, st)) :
    st.Inv h ∧ Mirror h st ∧ Built st root r := by
  obtain ⟨s, b, m⟩ := buildVal_step hb (BuildSt.inv_init h)
  exact ⟨s.inv, m (Mirror.init h), b⟩

/-- What `bindBuilt` computes before it substitutes the built values for the placeholders
    (`bindBuilt_eq`): it does not depend on those values, which is why binding commutes with
    renaming them. -/
def bindShape (o : GObj) : Except Err Binding :=
  let keys := o.children.map (fun pv => keyOfPElem pv.1)
  if keys.any Option.isNone then .error .typeError else
  bindBuilt.s_toArgs o.sig ((keys.filterMap id).zipIdx.map (fun (k, n) => (k, Val.v n)))

def bindBack (vals : List BVal) : Val → BVal
  | .v n => vals.getD n (.atom "?")
  | .d name => .dflt name
  | _ => .atom "?"

theorem bindBuilt_eq (o : GObj) (vals : List BVal) : bindBuilt o vals =
    (bindShape o).map (fun b => (b.slots.map (fun c => (c.1, bindBack vals c.2)),
      b.var.map (bindBack vals), b.kw.map (fun c => (c.1, bindBack vals c.2)))) := by
  unfold bindBuilt bindShape
  dsimp only
  split
  · rfl
  · split
    · next e he => rw [he]; rfl
    · next b hb => rw [hb]; rfl

theorem bindBuilt_ok_indep {o : GObj} {vals : List BVal} {r} (vals' : List BVal)
    (hr : bindBuilt o vals = .ok r) : ∃ r', bindBuilt o vals' = .ok r' := by
  rw [bindBuilt_eq] at hr ⊢
  cases hs : bindShape o with
  | error e => rw [hs] at hr; cases hr
  | ok b => exact ⟨_, rfl⟩

/-- `∀ vals` asks no more than one `vals`: whether a call binds depends on the keys of the children
    only (`bindBuilt_ok_indep`). -/
def Heap.Binds (h : Heap) : Prop :=
  ∀ o ∈ h, o.kind = .cfg → ∀ vals, ∃ r, bindBuilt o vals = .ok r

/-- What totality carries down the traversal. The last conjunct is why no cycle is reported: what is
    on the stack lies above `v`, and children lie below their parent. -/
def Visitable (h : Heap) (f : Nat) (stack : List Nat) (v : GVal) : Prop :=
  v.rank < f ∧ v.rank ≤ h.length ∧ ∀ k ∈ stack, v.rank ≤ k

theorem buildChildren_total
    (ihv : ∀ {v path st}, BuildSt.Inv h st → Visitable h fuel st.onStack v →
      ∃ r st', buildVal h [] fuel v path st = .ok (r, st'))
    {cs : List (PElem × GVal)} {path : Path} (hi : st.Inv h)
    (hcs : ∀ c ∈ cs, Visitable h fuel st.onStack c.2) :
    ∃ rs st', buildChildren h [] fuel cs path st = .ok (rs, st') := by
  induction cs generalizing st with
  | nil => exact ⟨[], st, by rw [buildChildren]⟩
  | cons c cs ih =>
    obtain ⟨pe, v⟩ := c
    rw [List.forall_mem_cons] at hcs
    obtain ⟨r, st1, h1⟩ := ihv (path := path ++ [pe]) hi hcs.1
    have s1 := (buildVal_step h1 hi).1
    obtain ⟨rs, st2, h2⟩ := ih s1.inv (s1.stackEq ▸ hcs.2)
    exact ⟨r :: rs, st2, by simp only [buildChildren, h1, h2]⟩

theorem buildVal_total (wf : h.WellFormed) (hb : h.Binds) {path : Path}
    (hi : st.Inv h) (hv : Visitable h fuel st.onStack v) :
    ∃ r st', buildVal h [] fuel v path st = .ok (r, st') := by
  induction fuel using Nat.strongRecOn generalizing v path st with | _ fuel ih => ?_
  fun_cases buildVal h [] fuel v path st
  case case1 => exact absurd hv.1 (Nat.not_lt_zero _)  -- out of fuel
  case case4 i _ hs =>  -- cycle
    exact absurd (hv.2.2 i (List.contains_iff_mem.mp hs)) (Nat.lt_irrefl i)
  case case5 hn _ _ =>  -- outside the heap
    exact absurd (List.getElem?_eq_none_iff.mp hn) (Nat.not_le_of_lt hv.2.1)
  case case7 ho _ _ hnone _ _ hch =>  -- a child raises
    obtain ⟨hf, hl, hs⟩ := hv
    obtain ⟨_, _, hch'⟩ := buildChildren_total (path := path) (ih _ (Nat.lt_succ_self _))
      (hi.push hnone) fun c hc =>
        have hci := wf.rank_le ho c hc
        ⟨Nat.lt_of_le_of_lt hci (Nat.lt_of_succ_lt_succ hf), Nat.le_trans hci (Nat.le_of_succ_le hl),
          List.forall_mem_cons.mpr ⟨hci, fun k hk => Nat.le_trans hci (Nat.le_of_succ_le (hs k hk))⟩⟩
    cases hch.symm.trans hch'
  case case8 hf _ _ _ _ => cases hf  -- the callable raises
  case case9 ho _ _ _ _ hc _ _ hbb _ _ _ _ =>  -- the call does not bind
    obtain ⟨_, hr⟩ := hb _ (List.mem_of_getElem? ho) (eq_of_beq hc) _
    cases hbb.symm.trans hr
  all_goals exact ⟨_, _, rfl⟩

theorem build_total (h : Heap) (wf : h.WellFormed) (hb : h.Binds) (root : GVal)
    (hr : ∀ i, root = .ref i → i < h.length) : ∃ r st, build h [] root = .ok (r, st) :=
  have hl := GVal.rank_le hr
  buildVal_total wf hb (BuildSt.inv_init h) ⟨Nat.lt_succ_of_le hl, hl, nofun⟩

end Fiddle
