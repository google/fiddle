/-
Executing the statement language: the program `straightLine` prints for a heap rebuilds that heap
(`straightLine_run`); evaluating an expression or running assignments only appends objects
(`CExpr.eval_prefix`, `runAssigns_prefix`) and keeps the heap well-formed (`CExpr.eval_wf`,
`CProg.run_wf`: children refer to earlier objects because arguments are evaluated first).
-/
import FiddleModel.Model.Codegen
import FiddleModel.Lemmas.Basic

namespace Fiddle

theorem CEnv.lookup_cons (env : CEnv) (x y : Nat) (v : GVal) :
    CEnv.lookup ((x, v) :: env) y = if x = y then some v else env.lookup y := by
  unfold CEnv.lookup
  exact (assoc_cons (x, v) env y).trans (by simp only [beq_iff_eq])

theorem CExpr.evalCh_leaf {env : CEnv} {h : Heap} {cs : List (PElem × GVal)}
    (hall : ∀ c ∈ cs, ∀ j, c.2 = .ref j → env.lookup j = some (.ref j)) :
    CExpr.evalCh (cs.map childExpr) env h = some (cs, h) := by
  induction cs with
  | nil => rfl
  | cons c cs ih =>
    rw [List.forall_mem_cons] at hall
    obtain ⟨pe, v⟩ := c
    cases v with
    | atom t => simp only [List.map_cons, childExpr, CExpr.evalCh, CExpr.eval, ih hall.2]
    | ref j =>
      simp only [List.map_cons, childExpr, CExpr.evalCh, CExpr.eval, hall.1 j rfl, Option.map_some,
        ih hall.2]

theorem CExpr.eval_objExpr {env : CEnv} {h : Heap} {o : GObj} (hd : o.defaults = [])
    (hch : ∀ c ∈ o.children, ∀ j, c.2 = .ref j → env.lookup j = some (.ref j)) :
    (objExpr o).eval env h = some (.ref h.length, h ++ [o]) := by
  cases o
  cases hd  -- a node expression has no defaults: what `eval` allocates has `defaults := []`
  simp only [objExpr, CExpr.eval, CExpr.evalCh_leaf hch]

/-- The loop invariant of a straight-line program: after the assignments for `pre`, the heap is
    `pre` and variable `j` holds object `j`. -/
theorem runAssigns_straight {suf pre : List GObj} {env : CEnv}
    (henv : ∀ j, j < pre.length → env.lookup j = some (.ref j))
    (wf : Heap.WellFormed (pre ++ suf)) (hdef : ∀ o ∈ suf, o.defaults = []) :
    ∃ env', runAssigns ((suf.zipIdx pre.length).map (fun oi => (oi.2, objExpr oi.1))) env pre =
        some (env', pre ++ suf) ∧
      ∀ j, j < (pre ++ suf).length → env'.lookup j = some (.ref j) := by
  induction suf generalizing pre env with
  | nil => exact ⟨env, by rw [List.append_nil]; rfl, by rwa [List.append_nil]⟩
  | cons o suf ih =>
    rw [List.forall_mem_cons] at hdef
    have hev := CExpr.eval_objExpr (env := env) (h := pre) hdef.1 fun c hc j hj =>
      henv j (wf pre.length o (by simp) c hc j hj)
    have hlen : (pre ++ [o]).length = pre.length + 1 := List.length_append
    rw [List.append_cons] at wf ⊢
    obtain ⟨env', hr, hl⟩ := ih (env := (pre.length, .ref pre.length) :: env)
      (fun j hj => by
        rw [hlen] at hj
        rw [CEnv.lookup_cons]
        split
        · next e => rw [e]
        · next e => exact henv j (Nat.lt_of_le_of_ne (Nat.le_of_lt_succ hj) (Ne.symm e)))
      wf hdef.2
    rw [hlen] at hr
    exact ⟨env', by simp only [List.zipIdx_cons, List.map_cons, runAssigns, hev, hr], hl⟩

theorem straightLine_run (h : Heap) (wf : h.WellFormed) (hd : ∀ o ∈ h, o.defaults = [])
    (root : GVal) (hr : ∀ j, root = .ref j → j < h.length) :
    (straightLine h root).run = some (root, h) := by
  obtain ⟨env, hrun, hl⟩ := runAssigns_straight (suf := h) (pre := []) (env := []) nofun wf hd
  rw [List.length_nil, List.nil_append] at hrun
  simp only [CProg.run, straightLine, hrun]
  cases root with
  | atom t => rfl
  | ref j => simp only [CExpr.eval, hl j (hr j rfl), Option.map_some]

theorem CExpr.eval_node_ok {kind ty bk sig ch tags env h v h'}
    (he : (CExpr.node kind ty bk sig ch tags).eval env h = some (v, h')) :
    ∃ vals h1, CExpr.evalCh ch env h = some (vals, h1) ∧ v = .ref h1.length ∧
      h' = h1 ++ [{ kind, ty, bk, sig, children := vals, tags }] := by
  rw [CExpr.eval] at he
  split at he
  · cases he
  · next vals h1 hc =>
    cases he
    exact ⟨vals, h1, hc, rfl, rfl⟩

theorem CExpr.evalCh_cons_ok {pe e r env h vs h'}
    (he : CExpr.evalCh ((pe, e) :: r) env h = some (vs, h')) :
    ∃ v h1 vs', e.eval env h = some (v, h1) ∧ CExpr.evalCh r env h1 = some (vs', h') ∧
      vs = (pe, v) :: vs' := by
  rw [CExpr.evalCh] at he
  split at he
  · cases he
  · next v h1 h1e =>
    split at he
    · cases he
    · next vs' h2 h2e =>
      cases he
      exact ⟨v, h1, vs', h1e, h2e, rfl⟩

mutual
theorem CExpr.eval_prefix {e : CExpr} {env : CEnv} {h h' : Heap} {v : GVal}
    (he : e.eval env h = some (v, h')) : h <+: h' := by
  cases e with
  | atom t =>
    cases he
    exact List.prefix_refl _
  | var x =>
    obtain ⟨_, _, ⟨⟩⟩ := Option.map_eq_some_iff.mp he
    exact List.prefix_refl _
  | node kind ty bk sig ch tags =>
    obtain ⟨_, _, hc, _, rfl⟩ := CExpr.eval_node_ok he
    exact (CExpr.evalCh_prefix hc).trans (List.prefix_append _ _)
theorem CExpr.evalCh_prefix {ch : List (PElem × CExpr)} {env : CEnv} {h h' : Heap}
    {vs : List (PElem × GVal)} (he : CExpr.evalCh ch env h = some (vs, h')) : h <+: h' := by
  cases ch with
  | nil =>
    cases he
    exact List.prefix_refl _
  | cons c r =>
    obtain ⟨_, _, _, h1e, h2e, _⟩ := CExpr.evalCh_cons_ok he
    exact (CExpr.eval_prefix h1e).trans (CExpr.evalCh_prefix h2e)
end

theorem CExpr.evalCh_keys {ch : List (PElem × CExpr)} {env : CEnv} {h h' : Heap}
    {vs : List (PElem × GVal)} (he : CExpr.evalCh ch env h = some (vs, h')) :
    vs.map (·.1) = ch.map (·.1) := by
  induction ch generalizing h vs with
  | nil => cases he; rfl
  | cons c cs ih =>
    obtain ⟨_, _, _, _, hc, rfl⟩ := CExpr.evalCh_cons_ok he
    rw [List.map_cons, List.map_cons, ih hc]

theorem runAssigns_prefix {as : List (Nat × CExpr)} {env env' : CEnv} {h h' : Heap}
    (he : runAssigns as env h = some (env', h')) : h <+: h' := by
  fun_induction runAssigns as env h
  case case1 => cases he; exact List.prefix_refl _
  case case2 => cases he
  case case3 h1e ih => exact (CExpr.eval_prefix h1e).trans (ih he)

def EnvBound (env : CEnv) (n : Nat) : Prop :=
  ∀ x v, env.lookup x = some v → ∀ j, v = .ref j → j < n

theorem EnvBound.mono {env : CEnv} {n m : Nat} (hb : EnvBound env n) (hnm : n ≤ m) : EnvBound env m :=
  fun x v hx j hj => Nat.lt_of_lt_of_le (hb x v hx j hj) hnm

theorem Heap.WellFormed.snoc {h : Heap} {o : GObj} (wf : h.WellFormed)
    (ho : ∀ c ∈ o.children, ∀ j, c.2 = .ref j → j < h.length) : (h ++ [o]).WellFormed := by
  intro i o' hi c hc j hj
  rcases Nat.lt_or_ge i h.length with hlt | hge
  · rw [List.getElem?_append_left hlt] at hi
    exact wf i o' hi c hc j hj
  · rw [List.getElem?_append_right hge] at hi
    cases List.mem_singleton.mp (List.mem_of_getElem? hi)
    exact Nat.lt_of_lt_of_le (ho c hc j hj) hge

mutual
theorem CExpr.eval_wf {e env h v h'} (wf : h.WellFormed) (hb : EnvBound env h.length)
    (he : CExpr.eval e env h = some (v, h')) :
    h'.WellFormed ∧ ∀ j, v = .ref j → j < h'.length := by
  cases e with
  | atom t =>
    cases he
    exact ⟨wf, nofun⟩
  | var x =>
    obtain ⟨w, hw, ⟨⟩⟩ := Option.map_eq_some_iff.mp he
    exact ⟨wf, hb x _ hw⟩
  | node kind ty bk sig ch tags =>
    obtain ⟨vals, h1, hc, rfl, rfl⟩ := CExpr.eval_node_ok he
    obtain ⟨wf1, hv1⟩ := CExpr.evalCh_wf ch env h vals h1 wf hb hc
    exact ⟨wf1.snoc hv1, by rintro j ⟨⟩; simp⟩
theorem CExpr.evalCh_wf : ∀ (ch : List (PElem × CExpr)) (env : CEnv) (h : Heap)
    (vs : List (PElem × GVal)) (h' : Heap), h.WellFormed → EnvBound env h.length →
    CExpr.evalCh ch env h = some (vs, h') →
    h'.WellFormed ∧ ∀ c ∈ vs, ∀ j, c.2 = .ref j → j < h'.length := by
  intro ch env h vs h' wf hb he
  cases ch with
  | nil =>
    cases he
    exact ⟨wf, fun _ hc => nomatch hc⟩
  | cons c r =>
    obtain ⟨v, h1, vs', h1e, h2e, rfl⟩ := CExpr.evalCh_cons_ok he
    obtain ⟨wf1, hv1⟩ := CExpr.eval_wf wf hb h1e
    have hp1 := (CExpr.eval_prefix h1e).length_le
    have hp2 := (CExpr.evalCh_prefix h2e).length_le
    obtain ⟨wf2, hv2⟩ := CExpr.evalCh_wf r env h1 vs' h' wf1 (hb.mono hp1) h2e
    exact ⟨wf2,
      List.forall_mem_cons.mpr ⟨fun j hj => Nat.lt_of_lt_of_le (hv1 j hj) hp2, hv2⟩⟩
end

theorem runAssigns_wf {as : List (Nat × CExpr)} {env env' : CEnv} {h h' : Heap}
    (wf : h.WellFormed) (hb : EnvBound env h.length) (he : runAssigns as env h = some (env', h')) :
    h'.WellFormed ∧ EnvBound env' h'.length := by
  fun_induction runAssigns as env h
  case case1 => cases he; exact ⟨wf, hb⟩
  case case2 => cases he
  case case3 h1e ih =>
    obtain ⟨wf1, hv1⟩ := CExpr.eval_wf wf hb h1e
    refine ih wf1 (fun y w hy j hj => ?_) he
    rw [CEnv.lookup_cons] at hy
    split at hy
    · cases hy
      exact hv1 j hj
    · exact hb.mono (CExpr.eval_prefix h1e).length_le y w hy j hj

theorem CProg.run_wf {p : CProg} {r : GVal} {h : Heap} (hp : p.run = some (r, h)) :
    h.WellFormed ∧ ∀ j, r = .ref j → j < h.length := by
  unfold CProg.run at hp
  split at hp
  · cases hp
  · next env h1 ha =>
    obtain ⟨wf1, hb1⟩ :=
      runAssigns_wf (h := []) (fun _ _ hi => nomatch hi) (fun _ _ hx => by cases hx) ha
    exact CExpr.eval_wf wf1 hb1 hp

end Fiddle
