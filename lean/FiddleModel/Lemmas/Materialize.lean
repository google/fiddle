/-
`materialize_defaults` on one Buildable: what the loop does to the argument store.  A round
either leaves the state as it is or stores the parameter's default under the parameter's own key;
either way the round's condition for doing nothing holds afterwards, which is why a second run
stores nothing.
-/
import FiddleModel.Lemmas.Ops
import FiddleModel.Lemmas.View

namespace Fiddle

/-- `kv` is parameter `p`'s default stored under `p`'s own key. -/
def OwnDefault (s : Sig) (kv : Key × Val) : Prop :=
  ∃ p ∈ s, p.dflt = true ∧ kv.2 = Sig.dfltVal p ∧
    ((p.kind ≠ .po ∧ kv.1 = .name p.name) ∨ (p.kind = .po ∧ ∃ i : Nat, s[i]? = some p ∧ kv.1 = .idx i))

/-- What a (partial) run of the loop has done. -/
structure MatResult (s : Sig) (c c' : Cfg) : Prop where
  tags : c'.tags = c.tags
  ext : ∃ added : Dict Val, c'.args = c.args ++ added ∧
    ∀ kv ∈ added, c.args.contains kv.1 = false ∧ OwnDefault s kv

variable {s : Sig} {p : Param} {ps : List Param} {i : Nat} {pf : Bool} {c c1 c' : Cfg}

theorem OwnDefault.idx {v : Val} (h : OwnDefault s (.idx i, v)) (hsi : s[i]? = some p) :
    p.dflt = true ∧ v = Sig.dfltVal p := by
  obtain ⟨q, -, hd, hv, ⟨-, e⟩ | ⟨-, j, hj, e⟩⟩ := h
  · cases e
  · cases e
    cases hj.symm.trans hsi
    exact ⟨hd, hv⟩

theorem MatResult.refl : MatResult s c c :=
  ⟨rfl, [], (List.append_nil _).symm, fun _ h => nomatch h⟩

theorem MatResult.contains_mono (h : MatResult s c c') {k : Key} (hk : c.args.contains k = true) :
    c'.args.contains k = true := by
  obtain ⟨ad, e, _⟩ := h.ext
  rw [e, Dict.contains_append, hk]; rfl

theorem MatResult.contains_required (h : MatResult s c c') (hsi : s[i]? = some p)
    (hd : p.dflt = false) : c'.args.contains (.idx i) = c.args.contains (.idx i) := by
  obtain ⟨ad, e, pa⟩ := h.ext
  rw [e, Dict.contains_append]
  cases hc : ad.contains (.idx i) with
  | false => exact Bool.or_false _
  | true =>
    obtain ⟨v, hv⟩ := Dict.contains_iff.mp hc
    exact absurd ((pa _ (Dict.mem_of_get? hv)).2.idx hsi).1 (Bool.eq_false_iff.mp hd)

theorem MatResult.trans (h1 : MatResult s c c1) (h2 : MatResult s c1 c') : MatResult s c c' := by
  obtain ⟨ad1, e1, p1⟩ := h1.ext
  obtain ⟨ad2, e2, p2⟩ := h2.ext
  refine ⟨h2.tags.trans h1.tags, ad1 ++ ad2, by rw [e2, e1, List.append_assoc],
    List.forall_mem_append.mpr ⟨p1, fun kv hm => ⟨?_, (p2 kv hm).2⟩⟩⟩
  exact Bool.eq_false_iff.mpr fun hc => Bool.eq_false_iff.mp (p2 kv hm).1 (h1.contains_mono hc)

/-- The key under which `materialize_defaults` stores the default of the parameter at index `i`:
    positional-only parameters by index, all others by name. -/
def matKey (p : Param) (i : Nat) : Key := if p.kind = .po then .idx i else .name p.name

/-- The call by which `materialize_defaults` stores a default: `cfg[i] = default` for a
    positional-only parameter, `setattr(cfg, name, default)` otherwise. -/
def storeDefault (s : Sig) (c : Cfg) (p : Param) (i : Nat) : Except Err Cfg :=
  if p.kind = .po then c.setItem s i (Sig.dfltVal p) else c.setAttr s p.name (Sig.dfltVal p)

/-- One round, then the rest with the flag (`prefixSet` in the model) brought up to date. -/
theorem Cfg.materializeLoop_cons :
    Cfg.materializeLoop s (p :: ps) i pf c =
      match (if p.dflt = false ∨ c.args.contains (matKey p i) = true ∨ (p.kind = .po ∧ pf = false)
        then .ok c else storeDefault s c p i) with
      | .ok c1 => Cfg.materializeLoop s ps (i + 1)
          (if p.kind = .po ∧ p.dflt = false then pf && c.args.contains (.idx i) else pf) c1
      | .error e => .error e := by
  rw [Cfg.materializeLoop]
  by_cases hd : p.dflt = true
  · by_cases hpo : p.kind = .po <;> simp [hd, hpo, matKey, storeDefault]
    -- the two sides differ in the auxiliary `match` function only; plain `rfl` unfolds `setItem` first
    all_goals split <;> with_reducible_and_instances rfl
  · simp [hd]

theorem storeDefault_ok (hsi : s[i]? = some p) (h : storeDefault s c p i = .ok c1) :
    c1 = c.setValue (matKey p i) (Sig.dfltVal p) := by
  unfold storeDefault at h
  unfold matKey
  split at h
  · rename_i hpo
    obtain ⟨k, hk, rfl⟩ := Cfg.setItem_ok h
    rw [if_neg (Int.not_lt.mpr (Int.natCast_nonneg i)), Sig.indexToKey_param _ hsi,
      if_neg (by rw [hpo]; decide)] at hk
    cases hk
    rw [if_pos hpo]
  · rename_i hpo
    rw [if_neg hpo]
    exact (ite_ok_iff.mp h).2.symm

theorem setValue_dfltVal_args (c : Cfg) (k : Key) (p : Param) :
    (c.setValue k (Sig.dfltVal p)).args = c.args.set k (Sig.dfltVal p) := log_args ..

theorem MatResult.store (hsi : s[i]? = some p) (hd : p.dflt = true)
    (habs : c.args.contains (matKey p i) = false) :
    MatResult s c (c.setValue (matKey p i) (Sig.dfltVal p)) := by
  refine ⟨log_tags .., [(matKey p i, Sig.dfltVal p)],
    by rw [setValue_dfltVal_args, Dict.set_absent habs],
    List.forall_mem_singleton.mpr ⟨habs, p, List.mem_of_getElem? hsi, hd, rfl, ?_⟩⟩
  by_cases hpo : p.kind = .po
  · exact .inr ⟨hpo, i, hsi, if_pos hpo⟩
  · exact .inl ⟨hpo, if_neg hpo⟩

theorem Cfg.materializeLoop_cons_ok (hsi : s[i]? = some p)
    (h : Cfg.materializeLoop s (p :: ps) i pf c = .ok c') :
    ∃ c1, Cfg.materializeLoop s ps (i + 1)
        (if p.kind = .po ∧ p.dflt = false then pf && c.args.contains (.idx i) else pf) c1 = .ok c' ∧
      MatResult s c c1 ∧
      (p.dflt = false ∨ c1.args.contains (matKey p i) = true ∨ (p.kind = .po ∧ pf = false)) := by
  rw [Cfg.materializeLoop_cons] at h
  split at h
  · rename_i c1 h1
    refine ⟨c1, h, ?_⟩
    split at h1
    · cases h1
      exact ⟨.refl, ‹_›⟩
    · rename_i hn
      cases storeDefault_ok hsi h1
      rw [not_or, not_or, Bool.not_eq_false, Bool.not_eq_true] at hn
      refine ⟨.store hsi hn.1 hn.2.1, .inr (.inl ?_)⟩
      rw [setValue_dfltVal_args, Dict.contains, Dict.get?_set_same]; rfl
  · cases h

theorem Cfg.materializeLoop_result (h : Cfg.materializeLoop s ps i pf c = .ok c') (hs : s.drop i = ps) :
    MatResult s c c' ∧
      ∀ p ∈ ps, p.dflt = true → p.kind ≠ .po → c'.args.contains (.name p.name) = true := by
  induction ps generalizing i pf c with
  | nil =>
    cases h
    exact ⟨.refl, fun _ hp => nomatch hp⟩
  | cons p ps ih =>
    obtain ⟨hsi, hs'⟩ := drop_eq_cons hs
    obtain ⟨c1, h1, st, hp⟩ := Cfg.materializeLoop_cons_ok hsi h
    obtain ⟨r, al⟩ := ih h1 hs'
    refine ⟨st.trans r, List.forall_mem_cons.mpr ⟨fun hd hk => r.contains_mono ?_, al⟩⟩
    rcases hp with h0 | hc | ⟨hpo, -⟩
    · rw [hd] at h0; cases h0
    · rwa [matKey, if_neg hk] at hc
    · exact absurd hpo hk

/-- A second run stores nothing: every round finds its condition for that as the first run left
    it, and the flag as the first run computed it. -/
theorem Cfg.materializeLoop_noop (h : Cfg.materializeLoop s ps i pf c = .ok c') (hs : s.drop i = ps) :
    Cfg.materializeLoop s ps i pf c' = .ok c' := by
  induction ps generalizing i pf c with
  | nil => rfl
  | cons p ps ih =>
    obtain ⟨hsi, hs'⟩ := drop_eq_cons hs
    obtain ⟨c1, h1, -, hp⟩ := Cfg.materializeLoop_cons_ok hsi h
    rw [Cfg.materializeLoop_cons,
      if_pos (hp.imp_right (.imp_left (Cfg.materializeLoop_result h1 hs').1.contains_mono)),
      ite_congr rfl (fun hc => by rw [(Cfg.materializeLoop_result h hs).1.contains_required hsi hc.2])
        fun _ => rfl]
    exact ih h1 hs'

end Fiddle
