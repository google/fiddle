/-
The memoized rebuild produces an isomorphic copy. One induction (`rebuildVal_step`) carries the
state invariant `RbSt.Inv` and what a run guarantees (`RbSt.Step`; allocating one copy is such a
step); `rebuild_spec` and `rebuild_faithful` are what it gives for `rebuild`, which is total on
acyclic structures.
-/
import FiddleModel.Model.Rebuild
import FiddleModel.Lemmas.Traverse
import FiddleModel.Lemmas.Basic

namespace Fiddle
theorem rbGet_cons (m : List (Nat × Nat)) (i j k : Nat) :
    rbGet ((i, j) :: m) k = if i = k then some j else rbGet m k := by
  unfold rbGet
  exact (assoc_cons (i, j) m k).trans (by simp only [beq_iff_eq])

theorem rbGet_nil (k : Nat) : rbGet [] k = none := rfl

/-- The memo read as a function on values. A reference it does not hold reads as `.ref 0`, so
    `r = imageOf memo v` says that `v` was copied only together with `RbSt.Memoized` (`Rebuilt`). -/
def imageOf (memo : List (Nat × Nat)) : GVal → GVal
  | .atom t => .atom t
  | .ref k => .ref ((rbGet memo k).getD 0)

theorem imageOf_of_get {m : List (Nat × Nat)} {k j : Nat} (hk : rbGet m k = some j) :
    imageOf m (.ref k) = .ref j := by
  simp only [imageOf, hk, Option.getD_some]

theorem imageOf_cons_ne {m : List (Nat × Nat)} {i j : Nat} {v : GVal}
    (h : ∀ k, v = .ref k → k ≠ i) : imageOf ((i, j) :: m) v = imageOf m v := by
  cases v with
  | atom t => rfl
  | ref k => rw [imageOf, imageOf, rbGet_cons, if_neg (h k rfl).symm]

def copyOf (memo : List (Nat × Nat)) (o : GObj) : GObj :=
  { o with children := (o.children.map (·.1)).zip (o.children.map (fun c => imageOf memo c.2)) }

structure RbSt.Inv (h : Heap) (st : RbSt) : Prop where
  fresh : ∀ i j, rbGet st.memo i = some j → j < st.out.length
  inj : ∀ i i' j, rbGet st.memo i = some j → rbGet st.memo i' = some j → i = i'
  closed : ∀ i o, h[i]? = some o → (rbGet st.memo i).isSome →
    ∀ c ∈ o.children, ∀ k, c.2 = .ref k → (rbGet st.memo k).isSome
  mirror : ∀ i j, rbGet st.memo i = some j → ∃ o, h[i]? = some o ∧ st.out[j]? = some (copyOf st.memo o)
  onto : ∀ j, j < st.out.length → ∃ i, rbGet st.memo i = some j
  ordered : ∀ i j o, rbGet st.memo i = some j → h[i]? = some o → ∀ c ∈ o.children, ∀ k j',
    c.2 = .ref k → rbGet st.memo k = some j' → j' < j

theorem RbSt.inv_init (h : Heap) : RbSt.Inv h {} := by
  constructor <;> intros <;> contradiction

section
variable {h : Heap} {fuel : Nat} {st st' : RbSt} {v r : GVal}

theorem copyOf_cons {m : List (Nat × Nat)} {i j : Nat} {o : GObj}
    (hnone : rbGet m i = none) (hch : ∀ c ∈ o.children, ∀ k, c.2 = .ref k → (rbGet m k).isSome) :
    copyOf ((i, j) :: m) o = copyOf m o := by
  unfold copyOf
  congr 2
  exact List.map_congr_left fun c hc => imageOf_cons_ne fun k hk e => by
    have := hch c hc k hk
    rw [e, hnone] at this; cases this

/-- `n` bounds the indices the run from `st` to `st'` memoized (`newLow`): the rebuild keeps no
    stack, and this is what shows that visiting the children of `i` leaves `i` unmemoized. -/
structure RbSt.Step (h : Heap) (st st' : RbSt) (n : Nat) : Prop where
  inv : st'.Inv h
  memoMono : ∀ i j, rbGet st.memo i = some j → rbGet st'.memo i = some j
  outPrefix : st.out <+: st'.out
  newLow : ∀ k, (rbGet st'.memo k).isSome → (rbGet st.memo k).isSome ∨ k < n

theorem RbSt.Step.refl {n : Nat} (hi : st.Inv h) : RbSt.Step h st st n :=
  ⟨hi, fun _ _ h => h, List.prefix_refl _, fun _ h => .inl h⟩

theorem RbSt.Step.trans {a b c : RbSt} {n m : Nat} (h1 : RbSt.Step h a b n)
    (h2 : RbSt.Step h b c m) (hnm : n ≤ m) : RbSt.Step h a c m :=
  ⟨h2.inv, fun i j hm => h2.memoMono i j (h1.memoMono i j hm), h1.outPrefix.trans h2.outPrefix,
   fun k hk => (h2.newLow k hk).elim
     (fun hk => (h1.newLow k hk).imp_right fun hk => Nat.lt_of_lt_of_le hk hnm) .inr⟩

theorem RbSt.Inv.alloc (hi : st.Inv h) {i : Nat} {o : GObj}
    (ho : h[i]? = some o) (hnone : rbGet st.memo i = none)
    (hch : ∀ c ∈ o.children, ∀ k, c.2 = .ref k → (rbGet st.memo k).isSome) :
    RbSt.Step h st { memo := (i, st.out.length) :: st.memo, out := st.out ++ [copyOf st.memo o] }
      (i + 1) := by
  have old : ∀ {k}, k ≠ i → rbGet ((i, st.out.length) :: st.memo) k = rbGet st.memo k :=
    fun hk => by rw [rbGet_cons, if_neg (Ne.symm hk)]
  have self : rbGet ((i, st.out.length) :: st.memo) i = some st.out.length := by
    rw [rbGet_cons, if_pos rfl]
  have kids : ∀ {k o'}, h[k]? = some o' → (rbGet ((i, st.out.length) :: st.memo) k).isSome →
      ∀ c ∈ o'.children, ∀ k', c.2 = .ref k' → (rbGet st.memo k').isSome := by
    intro k o' ho' hm
    by_cases e : k = i
    · rw [e, ho] at ho'; cases ho'
      exact hch
    · exact hi.closed k o' ho' (old e ▸ hm)
  have hlen : (st.out ++ [copyOf st.memo o]).length = st.out.length + 1 := List.length_append
  have stays : ∀ {k}, (rbGet st.memo k).isSome → k ≠ i := fun hk e => by
    rw [e, hnone] at hk; cases hk
  exact {
    memoMono k j hk := (old (stays (Option.isSome_of_eq_some hk))).trans hk
    outPrefix := List.prefix_append _ _
    newLow k hk := if e : k = i then .inr (e ▸ Nat.lt_succ_self i) else .inl (old e ▸ hk)
    inv := {
      fresh k j hk := by
        rw [hlen]
        by_cases e : k = i
        · rw [e, self] at hk; cases hk
          exact Nat.lt_succ_self _
        · exact Nat.lt_succ_of_lt (hi.fresh k j (old e ▸ hk))
      inj k k' j hk hk' := by
        by_cases e : k = i <;> by_cases e' : k' = i
        · rw [e, e']
        · rw [e, self] at hk; cases hk
          exact absurd (hi.fresh k' _ (old e' ▸ hk')) (Nat.lt_irrefl _)
        · rw [e', self] at hk'; cases hk'
          exact absurd (hi.fresh k _ (old e ▸ hk)) (Nat.lt_irrefl _)
        · exact hi.inj k k' j (old e ▸ hk) (old e' ▸ hk')
      closed k o' hk hm c hc k' hk' := by
        by_cases e : k' = i
        · rw [e, self]; rfl
        · rw [old e]; exact kids hk hm c hc k' hk'
      mirror k j hk := by
        by_cases e : k = i
        · rw [e, self] at hk; cases hk
          exact ⟨o, e ▸ ho, by rw [copyOf_cons hnone hch, List.getElem?_concat_length]⟩
        · rw [old e] at hk
          obtain ⟨o', ho', hout⟩ := hi.mirror k j hk
          refine ⟨o', ho', ?_⟩
          rw [copyOf_cons hnone (hi.closed k o' ho' (Option.isSome_of_eq_some hk)),
            List.getElem?_append_left (hi.fresh k j hk)]
          exact hout
      onto j hj := by
        rw [hlen] at hj
        rcases Nat.lt_succ_iff_lt_or_eq.mp hj with hj | rfl
        · obtain ⟨k, hk⟩ := hi.onto j hj
          exact ⟨k, (old (stays (Option.isSome_of_eq_some hk))).trans hk⟩
        · exact ⟨i, self⟩
      ordered k j o' hk ho' c hc k' j' hk' hj' := by
        rw [old (stays (kids ho' (Option.isSome_of_eq_some hk) c hc k' hk'))] at hj'
        by_cases e : k = i
        · rw [e, self] at hk; cases hk
          exact hi.fresh k' j' hj'
        · exact hi.ordered k j o' (old e ▸ hk) ho' c hc k' j' hk' hj' } }

def RbSt.Memoized (st : RbSt) (v : GVal) : Prop := ∀ k, v = .ref k → (rbGet st.memo k).isSome

def Rebuilt (st : RbSt) (v r : GVal) : Prop := r = imageOf st.memo v ∧ RbSt.Memoized st v

theorem Rebuilt.ref {i j : Nat} (hm : rbGet st.memo i = some j) :
    Rebuilt st (.ref i) (.ref j) :=
  ⟨(imageOf_of_get hm).symm, fun k hk => by cases hk; exact Option.isSome_of_eq_some hm⟩

theorem Rebuilt.mono {n : Nat} (hb : Rebuilt st v r) (hs : RbSt.Step h st st' n) :
    Rebuilt st' v r := by
  cases v with
  | atom t => exact ⟨hb.1, fun i hi => by cases hi⟩
  | ref i =>
    obtain ⟨j, hj⟩ := Option.isSome_iff_exists.mp (hb.2 i rfl)
    rw [hb.1, imageOf_of_get hj]
    exact .ref (hs.memoMono i j hj)

theorem Rebuilt.rank_le (hi : st.Inv h) (hb : Rebuilt st v r) : r.rank ≤ st.out.length := by
  cases v with
  | atom t => rw [hb.1]; exact Nat.zero_le _
  | ref i =>
    obtain ⟨j, hj⟩ := Option.isSome_iff_exists.mp (hb.2 i rfl)
    rw [hb.1, imageOf_of_get hj]
    exact hi.fresh i j hj

theorem rebuildChildren_step_of
    (ihv : ∀ {v st r st'}, rebuildVal h fuel v st = .ok (r, st') → st.Inv h →
      RbSt.Step h st st' v.rank ∧ Rebuilt st' v r)
    {cs : List (PElem × GVal)} {bound : Nat} (hb : ∀ c ∈ cs, c.2.rank ≤ bound)
    {rs : List GVal} (hr : rebuildChildren h fuel cs st = .ok (rs, st')) (hi : st.Inv h) :
    RbSt.Step h st st' bound ∧ rs = cs.map (fun c => imageOf st'.memo c.2) ∧
      (∀ c ∈ cs, RbSt.Memoized st' c.2) := by
  induction cs generalizing st rs with
  | nil =>
    rw [rebuildChildren] at hr
    cases hr
    exact ⟨.refl hi, rfl, fun _ hc => nomatch hc⟩
  | cons c cs ih =>
    rw [List.forall_mem_cons] at hb
    rw [rebuildChildren] at hr
    split at hr
    · cases hr
    · next r st1 h1 =>
      split at hr
      · cases hr
      · next rs' st2 h2 =>
        cases hr
        obtain ⟨s1, b1⟩ := ihv h1 hi
        obtain ⟨s2, hrs, hch⟩ := ih hb.2 h2 s1.inv
        have b1' := b1.mono s2
        exact ⟨s1.trans s2 hb.1, by rw [List.map_cons, ← hrs, ← b1'.1],
          List.forall_mem_cons.mpr ⟨b1'.2, hch⟩⟩

theorem rebuildVal_step (wf : h.WellFormed) (hb : rebuildVal h fuel v st = .ok (r, st'))
    (hi : st.Inv h) : RbSt.Step h st st' v.rank ∧ Rebuilt st' v r := by
  -- strong induction keeps `fuel` a variable, which `fun_cases` needs
  induction fuel using Nat.strongRecOn generalizing v st r st' with
  | _ fuel ih =>
  revert hb
  fun_cases rebuildVal h fuel v st
  case case2 => -- atom
    rintro ⟨⟩
    exact ⟨.refl hi, rfl, nofun⟩
  case case3 hj => -- memo hit
    rintro ⟨⟩
    exact ⟨.refl hi, .ref hj⟩
  case case6 fuel i o ho vals st1 _ hnone hch => -- new copy
    rintro ⟨⟩
    -- `vals` are the children's images: the new object is `copyOf st1.memo o`
    obtain ⟨s1, rfl, chm⟩ :=
      rebuildChildren_step_of (ih fuel (Nat.lt_succ_self _)) (wf.rank_le ho) hch hi
    -- the children are below `i`, so visiting them has not memoized `i`
    have hn1 : rbGet st1.memo i = none := Option.not_isSome_iff_eq_none.mp fun hs =>
      (s1.newLow i hs).elim (fun h0 => by rw [hnone] at h0; cases h0) (Nat.lt_irrefl i)
    exact ⟨s1.trans (s1.inv.alloc ho hn1 chm) (Nat.le_succ i),
      .ref (by rw [rbGet_cons, if_pos rfl])⟩
  all_goals nofun

end

theorem childAt_copyOf (memo : List (Nat × Nat)) (o : GObj) (pe : PElem) :
    childAt (copyOf memo o) pe = (childAt o pe).map (imageOf memo) := by
  unfold childAt copyOf
  rw [List.zip_map']
  exact assoc_map_snd (imageOf memo) o.children pe

theorem RbSt.Memoized.step {h : Heap} {st : RbSt} (hi : st.Inv h) (v : GVal) (pe : PElem) (c : GVal)
    (hv : RbSt.Memoized st v) (hc : followPath h v [pe] = some c) : RbSt.Memoized st c := by
  obtain ⟨k, o, rfl, ho, hm⟩ := mem_kids.mp (mem_kids_of_followPath hc)
  exact hi.closed k o ho (hv k rfl) (pe, c) hm

theorem followPath_memoized {h : Heap} {st : RbSt} (hi : st.Inv h) {p : Path} {v w : GVal} (hv : RbSt.Memoized st v)
    (hp : followPath h v p = some w) : RbSt.Memoized st w :=
  followPath_closed (RbSt.Memoized.step hi) p v w hv hp

theorem followPath_rebuilt {h : Heap} {st : RbSt} (hi : st.Inv h) (p : Path) {v : GVal} (hv : RbSt.Memoized st v) :
    followPath st.out (imageOf st.memo v) p = (followPath h v p).map (imageOf st.memo) := by
  refine followPath_sim ?_ (RbSt.Memoized.step hi) p v hv
  intro v pe hv
  cases v with
  | atom t => rfl
  | ref k =>
    obtain ⟨j, hg⟩ := Option.isSome_iff_exists.mp (hv k rfl)
    obtain ⟨o, ho, hout⟩ := hi.mirror k j hg
    simp only [imageOf, hg, Option.getD_some, followPath_single_ref, hout, ho, Option.bind_some,
      childAt_copyOf]

theorem imageOf_injective {h : Heap} {st : RbSt} (hi : st.Inv h) {v w : GVal}
    (hv : RbSt.Memoized st v) (hw : RbSt.Memoized st w) (e : imageOf st.memo v = imageOf st.memo w) :
    v = w := by
  cases v with
  | atom s =>
    cases w with
    | atom t => exact e
    | ref k => cases e
  | ref k =>
    cases w with
    | atom t => cases e
    | ref k' =>
      obtain ⟨j, g1⟩ := Option.isSome_iff_exists.mp (hv k rfl)
      obtain ⟨j', g2⟩ := Option.isSome_iff_exists.mp (hw k' rfl)
      rw [imageOf_of_get g1, imageOf_of_get g2] at e
      cases e
      rw [hi.inj k k' j g1 g2]

theorem rebuilt_out_object {h : Heap} {st : RbSt} (hi : st.Inv h) {j : Nat} {o' : GObj}
    (hj : st.out[j]? = some o') :
    ∃ i o, rbGet st.memo i = some j ∧ h[i]? = some o ∧ o' = copyOf st.memo o := by
  obtain ⟨i, hij⟩ := hi.onto j (List.getElem?_eq_some_iff.mp hj).1
  obtain ⟨o, ho, hout⟩ := hi.mirror i j hij
  exact ⟨i, o, hij, ho, Option.some.inj (hj.symm.trans hout)⟩

theorem rebuilt_wellFormed {h : Heap} {st : RbSt} (hi : st.Inv h) : st.out.WellFormed := by
  intro j o' hj c hc j' hcj
  obtain ⟨i, o, hij, ho, rfl⟩ := rebuilt_out_object hi hj
  simp only [copyOf, List.zip_map', List.mem_map] at hc
  obtain ⟨c0, hc0, rfl⟩ := hc
  cases h0 : c0.2 with
  | atom t => rw [h0] at hcj; cases hcj
  | ref k =>
    obtain ⟨jk, hg⟩ := Option.isSome_iff_exists.mp
      (hi.closed i o ho (Option.isSome_of_eq_some hij) c0 hc0 k h0)
    rw [h0, imageOf_of_get hg] at hcj
    cases hcj
    exact hi.ordered i j o hij ho c0 hc0 k j' h0 hg

section
variable {h : Heap} {root r : GVal} {st : RbSt}

theorem rebuild_spec (wf : h.WellFormed)
    (hb : rebuild h root = .ok (r, st)) :
    st.Inv h ∧ Rebuilt st root r :=
  (rebuildVal_step wf hb (RbSt.inv_init h)).imp_left RbSt.Step.inv

theorem rebuild_faithful (h : Heap) (wf : h.WellFormed) (root r : GVal) (st : RbSt)
    (hb : rebuild h root = .ok (r, st)) (p : Path) :
    followPath st.out r p = (followPath h root p).map (imageOf st.memo) := by
  obtain ⟨hi, hr, hm⟩ := rebuild_spec wf hb
  rw [hr]
  exact followPath_rebuilt hi p hm

theorem rebuild_root_lt (wf : h.WellFormed)
    (hb : rebuild h root = .ok (r, st)) : ∀ j, r = .ref j → j < st.out.length := by
  obtain ⟨hi, hm⟩ := rebuild_spec wf hb
  rintro j rfl
  exact Rebuilt.rank_le hi hm

theorem rebuilt_defaults (hi : st.Inv h) (hd : ∀ o ∈ h, o.defaults = []) :
    ∀ o' ∈ st.out, o'.defaults = [] := by
  intro o' ho'
  obtain ⟨j, hj⟩ := List.getElem?_of_mem ho'
  obtain ⟨i, o, _, ho, rfl⟩ := rebuilt_out_object hi hj
  exact hd o (List.mem_of_getElem? ho)

end

section
variable {h : Heap} {fuel : Nat}

theorem rebuildChildren_total {cs : List (PElem × GVal)}
    (hcs : ∀ c ∈ cs, ∀ st, ∃ r st', rebuildVal h fuel c.2 st = .ok (r, st')) (st : RbSt) :
    ∃ rs st', rebuildChildren h fuel cs st = .ok (rs, st') := by
  induction cs generalizing st with
  | nil => exact ⟨[], st, by rw [rebuildChildren]⟩
  | cons c cs ih =>
    obtain ⟨pe, v⟩ := c
    rw [List.forall_mem_cons] at hcs
    obtain ⟨r, st1, h1⟩ := hcs.1 st
    obtain ⟨rs, st2, h2⟩ := ih hcs.2 st1
    exact ⟨r :: rs, st2, by simp only [rebuildChildren, h1, h2]⟩

theorem rebuildVal_total (wf : h.WellFormed) {v : GVal} (st : RbSt) (hv : v.rank < fuel)
    (hl : v.rank ≤ h.length) : ∃ r st', rebuildVal h fuel v st = .ok (r, st') := by
  induction fuel using Nat.strongRecOn generalizing v st with | _ fuel ih => ?_
  fun_cases rebuildVal h fuel v st
  case case1 => cases hv  -- out of fuel
  case case4 hn _ =>  -- outside the heap
    exact absurd (List.getElem?_eq_none_iff.mp hn) (Nat.not_le_of_lt hl)
  case case5 ho _ _ hch =>  -- a child raises
    obtain ⟨_, _, hch'⟩ := rebuildChildren_total (st := st) fun c hc st =>
      have hc := wf.rank_le ho c hc
      ih _ (Nat.lt_succ_self _) st (Nat.lt_of_le_of_lt hc (Nat.lt_of_succ_lt_succ hv))
        (Nat.le_trans hc (Nat.le_of_succ_le hl))
    cases hch.symm.trans hch'
  all_goals exact ⟨_, _, rfl⟩

end

theorem rebuild_total (h : Heap) (wf : h.WellFormed) (root : GVal)
    (hr : ∀ i, root = .ref i → i < h.length) : ∃ r st, rebuild h root = .ok (r, st) :=
  have hl := GVal.rank_le hr
  rebuildVal_total wf {} (Nat.lt_succ_of_le hl) hl

end Fiddle
