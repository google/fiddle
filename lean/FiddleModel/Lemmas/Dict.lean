/-
Lemmas about the insertion-ordered association-list dict (`Fiddle.Dict`): lookup, `set`
(overwrite in place, else append), `del` (remove the first binding), and what distinct keys add.
-/
import FiddleModel.Lemmas.Basic

namespace Fiddle.Dict
variable {α : Type}

@[simp] theorem get?_nil (k : Key) : (Dict.get? ([] : Dict α) k) = none := rfl

theorem get?_cons {k' : Key} {v' : α} {r : Dict α} {k : Key} :
    get? ((k', v') :: r) k = if k' = k then some v' else get? r k := rfl

@[simp] theorem keys_cons (kv : Key × α) (r : Dict α) : keys (kv :: r) = kv.1 :: keys r := rfl
@[simp] theorem keys_nil : keys ([] : Dict α) = [] := rfl

theorem mem_keys_of_mem {d : Dict α} {kv : Key × α} (h : kv ∈ d) : kv.1 ∈ d.keys :=
  List.mem_map_of_mem (f := (·.1)) h

theorem get?_eq_assoc {d : Dict α} {k : Key} : d.get? k = assoc d k := by
  fun_induction get? d k
  case case1 => rfl
  case case2 => rw [assoc_cons, if_pos (beq_self_eq_true _)]
  case case3 h ih => rw [assoc_cons, if_neg (mt beq_iff_eq.mp h), ih]

theorem get?_append {d a : Dict α} {k : Key} : (d ++ a).get? k = (d.get? k).or (a.get? k) := by
  simp only [get?_eq_assoc]; exact assoc_append d a k

theorem mem_of_get? {d : Dict α} {k : Key} {v : α} (h : d.get? k = some v) : (k, v) ∈ d :=
  assoc_mem (get?_eq_assoc ▸ h)

theorem get?_none_of_not_mem {d : Dict α} {k : Key} (h : k ∉ d.keys) : d.get? k = none :=
  get?_eq_assoc ▸ assoc_eq_none.mpr fun _ hv => h (mem_keys_of_mem hv)

theorem contains_iff {d : Dict α} {k : Key} : d.contains k = true ↔ ∃ v, d.get? k = some v :=
  Option.isSome_iff_exists

theorem get?_eq_none_iff {d : Dict α} {k : Key} : d.get? k = none ↔ d.contains k = false := by
  rw [contains, Option.isSome_eq_false_iff, Option.isNone_iff_eq_none]

theorem contains_iff_mem_keys {d : Dict α} {k : Key} : d.contains k = true ↔ k ∈ d.keys := by
  rw [contains, get?_eq_assoc, assoc_isSome, List.any_eq_true, keys, List.mem_map]
  exact exists_congr fun x => and_congr_right fun _ => beq_iff_eq

theorem contains_append {d a : Dict α} {k : Key} :
    (d ++ a).contains k = (d.contains k || a.contains k) := by
  simp only [contains, get?_append]; cases d.get? k <;> rfl

theorem get?_set_same {d : Dict α} {k : Key} {v : α} : (d.set k v).get? k = some v := by
  fun_induction set d k v
  case case1 => exact if_pos rfl
  case case2 => exact if_pos rfl
  case case3 h ih => rw [get?_cons, if_neg h, ih]

theorem get?_set_other {d : Dict α} {k k' : Key} {v : α} (h : k ≠ k') :
    (d.set k v).get? k' = d.get? k' := by
  fun_induction set d k v
  case case1 => exact if_neg h
  case case2 => rw [get?_cons, get?_cons, if_neg h, if_neg h]
  case case3 ih => rw [get?_cons, get?_cons, ih h]

theorem contains_set {d : Dict α} {k k' : Key} {v : α} (h : d.contains k' = true) :
    (d.set k v).contains k' = true := by
  unfold contains at *
  by_cases e : k = k'
  · rw [← e, get?_set_same]; rfl
  · rw [get?_set_other e]; exact h

theorem set_absent {d : Dict α} {k : Key} {v : α} (h : d.contains k = false) :
    d.set k v = d ++ [(k, v)] := by
  fun_induction set d k v
  case case1 => rfl
  case case2 =>
    rw [contains, get?_cons, if_pos rfl] at h
    cases h
  case case3 h0 ih =>
    rw [contains, get?_cons, if_neg h0] at h
    rw [ih h]
    rfl

theorem keys_set_of_contains {d : Dict α} {k : Key} {v : α} (h : d.contains k = true) :
    (d.set k v).keys = d.keys := by
  fun_induction set d k v
  case case1 => cases h
  case case2 => rfl
  case case3 h0 ih =>
    rw [contains, get?_cons, if_neg h0] at h
    rw [keys_cons, keys_cons, ih h]

theorem keys_set {d : Dict α} {k : Key} {v : α} :
    (d.set k v).keys = if d.contains k then d.keys else d.keys ++ [k] := by
  split
  · exact keys_set_of_contains ‹_›
  · rw [set_absent (Bool.eq_false_iff.mpr ‹_›), keys, List.map_append]; rfl

theorem forall_keys_set {Q : Key → Prop} {d : Dict α} (h : ∀ k ∈ d.keys, Q k) {k0 : Key}
    (h0 : Q k0) {v : α} : ∀ k ∈ (d.set k0 v).keys, Q k := by
  rw [keys_set]
  split
  · exact h
  · exact List.forall_mem_append.mpr ⟨h, List.forall_mem_singleton.mpr h0⟩

/-- Two `set`s commute when the first key is present (an absent key is appended, so the order
    of two absent keys would show). -/
theorem set_comm {d : Dict α} {k k' : Key} {v v' : α} (hne : k ≠ k')
    (hk : d.contains k = true) : (d.set k v).set k' v' = (d.set k' v').set k v := by
  fun_induction set d k v
  case case1 => cases hk
  case case2 => rw [set, if_neg hne, set, if_neg hne, set, if_pos rfl]
  case case3 k0 _ _ _ _ h0 ih =>
    rw [contains, get?_cons, if_neg h0] at hk
    rw [set, set]
    by_cases h1 : k0 = k'
    · rw [if_pos h1, if_pos h1, set, if_neg hne.symm]
    · rw [if_neg h1, if_neg h1, set, if_neg h0, ih hne hk]

theorem get?_del_other {d : Dict α} {k k' : Key} (h : k ≠ k') :
    (d.del k).get? k' = d.get? k' := by
  fun_induction del d k
  case case1 => rfl
  case case2 => rw [get?_cons, if_neg h]
  case case3 ih => rw [get?_cons, get?_cons, ih h]

theorem del_eq_self_of_get_none {d : Dict α} {k : Key} (h : d.get? k = none) :
    d.del k = d := by
  fun_induction del d k
  case case1 => rfl
  case case2 =>
    rw [get?_cons, if_pos rfl] at h
    cases h
  case case3 h0 ih =>
    rw [get?_cons, if_neg h0] at h
    rw [ih h]

theorem del_sublist {d : Dict α} {k : Key} : (d.del k).Sublist d := by
  fun_induction del d k
  case case1 => exact .slnil
  case case2 => exact List.sublist_cons_self _ _
  case case3 ih => exact ih.cons_cons _

theorem keys_del_subset {d : Dict α} {k : Key} : ∀ x, x ∈ (d.del k).keys → x ∈ d.keys :=
  fun _ hx => (del_sublist.map _).subset hx

/-- True of every Python dict. -/
def NodupKeys (d : Dict α) : Prop := d.keys.Nodup

theorem nodupKeys_cons {kv : Key × α} {r : Dict α} :
    NodupKeys (kv :: r) ↔ kv.1 ∉ r.keys ∧ NodupKeys r := List.nodup_cons

theorem pairwise_keys {d : Dict α} (hn : d.NodupKeys) : d.Pairwise (fun a b => a.1 ≠ b.1) :=
  List.pairwise_map.mp hn

theorem get?_of_mem {d : Dict α} (hn : d.NodupKeys) {k : Key} {v : α} (h : (k, v) ∈ d) :
    d.get? k = some v :=
  get?_eq_assoc ▸ assoc_of_mem hn h

theorem NodupKeys.sublist {r d : Dict α} (h : r.Sublist d) (hd : d.NodupKeys) : r.NodupKeys :=
  (h.map _).nodup hd

theorem get?_of_sublist {r d : Dict α} (h : r.Sublist d) (hd : d.NodupKeys) {k : Key} {v : α}
    (hv : r.get? k = some v) : d.get? k = some v :=
  get?_of_mem hd (h.subset (mem_of_get? hv))

theorem NodupKeys.set {d : Dict α} {k : Key} {v : α} (hd : d.NodupKeys) : (d.set k v).NodupKeys := by
  rw [NodupKeys, keys_set]
  split
  · exact hd
  · exact (List.perm_append_singleton k _).nodup_iff.mpr
      (List.nodup_cons.mpr ⟨mt contains_iff_mem_keys.mpr ‹_›, hd⟩)

theorem NodupKeys.del {d : Dict α} {k : Key} (hd : d.NodupKeys) : (d.del k).NodupKeys :=
  .sublist del_sublist hd

theorem get?_del_same {d : Dict α} {k : Key} (hd : d.NodupKeys) : (d.del k).get? k = none := by
  fun_induction del d k
  case case1 => rfl
  case case2 => exact get?_none_of_not_mem (nodupKeys_cons.mp hd).1
  case case3 h0 ih => rw [get?_cons, if_neg h0, ih (nodupKeys_cons.mp hd).2]

end Fiddle.Dict
