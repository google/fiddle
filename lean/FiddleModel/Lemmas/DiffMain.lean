/-
`flat_roundtrip` (C10, C14): for one node, `apply_diff(build_diff(old, new), old)` succeeds and agrees
with `new` on callable, arguments and tags, by running the six segments of the diff through the
phase lemmas of `DiffL`. `execAll_emit` (C13) runs the emitted statements beside the changes.
-/
import FiddleModel.Lemmas.DiffL

namespace Fiddle.Diff
open Fiddle

theorem flat_roundtrip (sg : Sigs) (old new : Flat) (ho : old.Valid sg) (hn : new.Valid sg) :
    ∃ r, applyPhases sg ["DeleteValue", "RemoveTag", "ModifyValue", "SetValue", "AddTag"]
        (flatDiff old new) old = .ok r ∧
      r.fn = new.fn ∧ (∀ k, r.args.get? k = new.args.get? k) ∧
      (∀ n t, t ∈ r.tagsOf n ↔ t ∈ new.tagsOf n) := by
  -- the diff lists its changes in phase order already
  rw [applyPhases_eq_applyAll, phased_flatDiff]
  obtain ⟨a1, e1, g0⟩ := phase_dels sg (dels old new) old (dels_nodup ho.argsNodup)
    (fun n h => Dict.contains_iff_mem_keys.mpr (mem_dels.mp h).1) ho.argsNodup
  have g1 : ∀ k, a1.get? k = if new.args.contains k then old.args.get? k else none := by
    intro k
    rw [g0]
    by_cases hko : k ∈ old.args.keys
    · obtain ⟨n, rfl⟩ := ho.name_of_mem hko
      simp only [List.mem_map, Key.name.injEq, exists_eq_right, mem_dels, hko, true_and]
      cases new.args.contains (.name n) <;> rfl
    · rw [Dict.get?_none_of_not_mem hko, ite_self, ite_self]
  obtain ⟨t2, e2, m2⟩ := phase_removeTags sg (tagPairs old new) { old with args := a1 }
    (tagPairs_nodup ho.tagsNodup) fun p hp => ((mem_tagPairs ho.tagsNodup).mp hp).1
  have e3 : applyAll sg { old with args := a1, tags := t2 } (fnChange old new) =
      .ok { fn := new.fn, args := a1, tags := t2 } := by
    unfold fnChange
    split
    · rename_i hfn; rw [← hfn]; rfl
    · refine applyAll_cons_ok.mpr
        ⟨_, apply1_modifyFn_ok.mpr ⟨List.all_eq_true.mpr fun k hk => ?_, rfl⟩, rfl⟩
      -- what survives the deletions is an argument of `new`, so the new callable accepts it
      refine hn.argsOk k (Dict.contains_iff_mem_keys.mp (Decidable.by_contra fun hc => ?_))
      have h := Dict.contains_iff_mem_keys.mpr hk
      rw [Dict.contains, g1, if_neg hc] at h
      cases h
  obtain ⟨a4, e4, g4⟩ :=
    phase_assign sg .modifyValue new.args (mods old new) { fn := new.fn, args := a1, tags := t2 }
      (fun p hp a ha => by
        obtain ⟨hg, v, hv, _⟩ := mem_mods.mp hp
        refine apply1_modifyValue_ok.mpr ⟨ha _ ?_, rfl⟩
        rw [Dict.contains, g1, Dict.contains_iff.mpr ⟨_, hg⟩, Dict.get?_of_mem ho.argsNodup hv]
        rfl)
      (fun p hp => (mem_mods.mp hp).1)
  obtain ⟨a5, e5, g5⟩ :=
    phase_assign sg .setValue new.args (sets old new) { fn := new.fn, args := a4, tags := t2 }
      (fun p hp a _ => apply1_setValue_ok.mpr
        ⟨hn.argsOk (.name p.1) (Dict.mem_keys_of_mem (mem_sets.mp hp).1), rfl⟩)
      (fun p hp => Dict.get?_of_mem hn.argsNodup (mem_sets.mp hp).1)
  obtain ⟨t6, e6, m6⟩ :=
    phase_addTags sg (tagPairs new old) { fn := new.fn, args := a5, tags := t2 }
      (fun p hp => hn.tagsOk (.name p.1) <| Decidable.by_contra fun hk => by
        have ht := ((mem_tagPairs hn.tagsNodup).mp hp).1
        rw [Flat.tagsOf, Dict.get?_none_of_not_mem hk] at ht
        cases ht)
  refine ⟨{ fn := new.fn, args := a5, tags := t6 }, ?_, rfl, fun k => ?_, fun n t => ?_⟩
  · simp only [flatDiff, applyAll_append, e1, e2, e3, e4, e5, e6]
  · refine (g5 k).trans (ite_eq_left_iff.mpr fun hs => ?_)
    refine (g4 k).trans (ite_eq_left_iff.mpr fun hm => ?_)
    rw [g1 k]
    cases hk : new.args.contains k
    · exact (Dict.get?_eq_none_iff.mpr hk).symm
    · exact ((diff_key_cases hn hk).resolve_left hs).resolve_left hm
  · refine (m6 n t).trans ((or_congr_left (m2 n t)).trans ?_)
    rw [mem_tagPairs ho.tagsNodup, mem_tagPairs hn.tagsNodup]
    show (t ∈ old.tagsOf n ∧ _) ∨ _ ↔ _
    by_cases h1 : t ∈ old.tagsOf n <;> simp [h1]

theorem execAll_append (sg : Sigs) : ∀ (a b : List Stmt) (c : Flat),
    execAll sg c (a ++ b) =
      match execAll sg c a with
      | .ok c' => execAll sg c' b
      | .error e => .error e := by
  intro a b c
  fun_induction execAll sg c a
  case case1 => rfl
  case case2 h ih => simp only [List.cons_append, execAll, h, ih]
  case case3 h => simp only [List.cons_append, execAll, h]

/-- `Flat.Valid.argsOk` on its own: what `__setattr__` and `update_callable` check. -/
def ArgsOk (sg : Sigs) (c : Flat) : Prop := ∀ k ∈ c.args.keys, accepts sg c.fn k = true

theorem exec1_emit1 {sg : Sigs} {c r : Flat} {ch : Change} (hok : ArgsOk sg c)
    (h : apply1 sg c ch = .ok r) : exec1 sg c (emit1 ch) = .ok r ∧ ArgsOk sg r := by
  cases ch with
  | deleteValue k =>
    obtain ⟨hc, rfl⟩ := apply1_deleteValue_ok.mp h
    exact ⟨ite_ok_iff.mpr ⟨hc, rfl⟩, fun k' hk' => hok k' (Dict.keys_del_subset _ hk')⟩
  | modifyValue k v =>
    obtain ⟨hc, rfl⟩ := apply1_modifyValue_ok.mp h
    -- `cfg.k = v` asks the callable where ModifyValue asks the arguments
    have hk := hok _ (Dict.contains_iff_mem_keys.mp hc)
    exact ⟨ite_ok_iff.mpr ⟨hk, rfl⟩, Dict.forall_keys_set hok hk⟩
  -- the other four statements run the very code of their change
  | removeTag k t =>
    obtain ⟨_, rfl⟩ := apply1_removeTag_ok.mp h
    exact ⟨h, hok⟩
  | modifyFn f =>
    obtain ⟨hc, rfl⟩ := apply1_modifyFn_ok.mp h
    exact ⟨h, List.all_eq_true.mp hc⟩
  | setValue k v =>
    obtain ⟨hc, rfl⟩ := apply1_setValue_ok.mp h
    exact ⟨h, Dict.forall_keys_set hok (k0 := .name k) hc⟩
  | addTag k t =>
    obtain ⟨_, rfl⟩ := apply1_addTag_ok.mp h
    exact ⟨h, hok⟩

theorem execAll_emit {sg : Sigs} {chs : List Change} {c r : Flat} (hok : ArgsOk sg c)
    (h : applyAll sg c chs = .ok r) : execAll sg c (chs.map emit1) = .ok r ∧ ArgsOk sg r := by
  induction chs generalizing c with
  | nil => cases h; exact ⟨rfl, hok⟩
  | cons ch chs ih =>
    obtain ⟨c', h1, h⟩ := applyAll_cons_ok.mp h
    obtain ⟨e1, ok1⟩ := exec1_emit1 hok h1
    obtain ⟨e2, ok2⟩ := ih ok1 h
    exact ⟨by simp only [List.map_cons, execAll, e1, e2], ok2⟩

end Fiddle.Diff
