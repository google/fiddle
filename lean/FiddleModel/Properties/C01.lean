/-
C01 — build(Config(f, …)) calls f with exactly the configured arguments.

Model: `Model/ArgStore.lean` (`toArgsKwargs` = `transform_to_args_kwargs`) and `Model/Call.lean`
(`pyCall`, `buildCall`, `direct`).
-/
import FiddleModel.Lemmas.BuildArgs
import FiddleModel.Lemmas.OrderedKw
import FiddleModel.Lemmas.PyCall

namespace Fiddle
open Sig

/-- **Positional arguments are aligned with their parameters.** In build mode the positional
    list is `front ++ var`: `front` is an initial segment of `expectedSlots` (slot by slot what
    each positional-mode parameter should receive: its stored value, else its default) and the
    slots after it hold a default or `none` (`dfltOpt` of some `sk'`, which the statement does not
    identify); `var` is the contiguous `*args` run; with a non-empty `*args` no slot is left out. -/
theorem C01_positional_aligned (s : Sig) (d : Dict Val) (wf : ViewWF s)
    (pos : List Val) (kw : Dict Val) (h : s.toArgsKwargs d false false = .ok (pos, kw)) :
    ∃ front sk', pos = front ++ varArgs s d ∧
      front.map some ++ sk'.map dfltOpt = expectedSlots false (varPresent s d) d s 0 ∧
      (varArgs s d ≠ [] → sk' = []) :=
  toArgsKwargs_aligned wf h

/-- **Never bound to a different parameter**: the j-th positional value before the `*args` run
    is the value the j-th positional-mode parameter should receive (slot j of `expectedSlots`). -/
theorem C01_never_misbinds (s : Sig) (d : Dict Val) (wf : ViewWF s)
    (pos : List Val) (kw : Dict Val) (h : s.toArgsKwargs d false false = .ok (pos, kw)) :
    ∃ front, pos = front ++ varArgs s d ∧
      ∀ j (hj : j < front.length),
        (expectedSlots false (varPresent s d) d s 0)[j]? = some (some front[j]) := by
  obtain ⟨front, sk', hp, he, _⟩ := C01_positional_aligned s d wf pos kw h
  refine ⟨front, hp, fun j hj => ?_⟩
  rw [← he, List.getElem?_append_left (by simpa using hj)]
  simp [hj]

/-- **A required slot is never skipped over**: with a required positional-mode parameter unset
    and a stored (non-default) value in a later slot, or a non-empty `*args`,
    `transform_to_args_kwargs` raises. -/
theorem C01_required_gap_raises (s : Sig) (d : Dict Val) (wf : ViewWF s)
    (j : Nat) (hreq : (expectedSlots false (varPresent s d) d s 0)[j]? = some none)
    (hlater : (∃ j', j < j' ∧ ∃ v, (expectedSlots false (varPresent s d) d s 0)[j']? = some (some v)
        ∧ ∀ p, dfltOpt p ≠ some v) ∨ varArgs s d ≠ []) :
    ∀ pos kw, s.toArgsKwargs d false false ≠ .ok (pos, kw) := by
  intro pos kw h
  obtain ⟨front, sk', -, he, hv⟩ := C01_positional_aligned s d wf pos kw h
  rw [← he] at hreq hlater
  -- the `none` slot lies in the skipped suffix
  have hjf : front.length ≤ j := Nat.le_of_not_lt fun hlt => by
    rw [List.getElem?_append_left (by simpa using hlt), List.getElem?_map] at hreq
    obtain ⟨_, -, ha⟩ := Option.map_eq_some_iff.mp hreq
    cases ha
  rcases hlater with ⟨j', hjj, v, hv', hnd⟩ | hvar
  · -- a skipped slot can only hold a default
    rw [List.getElem?_append_right (by simp; omega), List.getElem?_map] at hv'
    obtain ⟨p, -, hp⟩ := Option.map_eq_some_iff.mp hv'
    exact hnd p hp
  · rw [hv hvar, List.map_nil, List.append_nil, List.getElem?_eq_none (by simpa using hjf)] at hreq
    cases hreq

/-- A skipped slot with a default is filled with that default; a skipped required slot raises;
    `build` passes what the reported arguments imply (`direct`). -/
example : Sig.toArgsKwargs [⟨"a", .po, true⟩, ⟨"b", .po, true⟩] [(.idx 1, .v 5)] false false
    = .ok ([.d "a", .v 5], []) := rfl

example : Sig.toArgsKwargs [⟨"a", .po, false⟩, ⟨"b", .po, true⟩, ⟨"c", .pk, true⟩]
    [(.idx 1, .v 9)] false false = .error .typeError := rfl

example : buildCall [⟨"a", .po, true⟩, ⟨"b", .po, true⟩] { args := [(.idx 1, .v 5)] }
    = direct [⟨"a", .po, true⟩, ⟨"b", .po, true⟩] [(.idx 1, .v 5)] := by rfl

/-- **The callable receives the positional list slot by slot.** Whenever `build` forms the call
    (`ordered_arguments` → `transform_to_args_kwargs` → `fn(*pos, **kw)`) and CPython binds it, the
    `j`-th positional value is what the `j`-th positional parameter receives, there are as many
    slots as named parameters, and the excess is exactly the `*args` tuple. -/
theorem C01_callable_receives_positionals (s : Sig) (hs : (s.positionalParams.map (·.name)).Nodup)
    (c : Cfg) (b : Binding) (h : buildCall s c = .ok b) :
    ∃ oa pos kw, c.orderedArguments s {} = .ok oa ∧ s.toArgsKwargs oa false false = .ok (pos, kw) ∧
      b.var = pos.drop s.positionalParams.length ∧
      b.slots.length = s.namedParams.length ∧
      ∀ p v, (p, v) ∈ s.positionalParams.zip pos → (p.name, v) ∈ b.slots :=
  let ⟨oa, pos, kw, _, hoa, hta, _, hpc⟩ := buildCall_ok h
  ⟨oa, pos, kw, hoa, hta, pyCall_positional hs hpc⟩

/-- Non-vacuity: `def f(a, b=…, /, *args)` configured with `a=1` and `*args=(7,)` — the unset `b`
    is passed as its default, `7` arrives in `*args`. -/
example : buildCall [⟨"a", .po, false⟩, ⟨"b", .po, true⟩, ⟨"args", .vp, false⟩]
    { args := [(.idx 0, .v 1), (.idx 2, .v 7)] }
    = .ok { slots := [("a", .v 1), ("b", .d "b")], var := [.v 7], kw := [] } := by rfl

/-- **The callable receives the keyword dict name by name**: every keyword naming a
    keyword-capable parameter is what that parameter receives, and the remaining keywords are
    exactly the `**kwargs` dict the callable sees, in the order passed. -/
theorem C01_callable_receives_keywords (s : Sig) (c : Cfg) (b : Binding) (h : buildCall s c = .ok b) :
    ∃ oa pos kw kws, c.orderedArguments s {} = .ok oa ∧ s.toArgsKwargs oa false false = .ok (pos, kw) ∧
      kwList kw = .ok kws ∧
      b.kw = kws.filter (fun kv => !s.isKwParam kv.1) ∧
      ∀ n v, (n, v) ∈ kws → s.isKwParam n = true → (n, v) ∈ b.slots :=
  let ⟨oa, pos, kw, kws, hoa, hta, hkl, hpc⟩ := buildCall_ok h
  ⟨oa, pos, kw, kws, hoa, hta, hkl, pyCall_keywords hpc⟩

/-- Non-vacuity: `def f(a, *, k=…, **kwargs)` with `a`, `k` and an extra `z` configured. -/
example : buildCall [⟨"a", .pk, false⟩, ⟨"k", .ko, true⟩, ⟨"kwargs", .vk, false⟩]
    { args := [(.name "a", .v 1), (.name "z", .v 3), (.name "k", .v 2)] }
    = .ok { slots := [("a", .v 1), ("k", .v 2)], var := [], kw := [("z", .v 3)] } := by rfl

/-- **Each positional parameter receives what its slot prescribes**: for every position `j`
    inside the passed front, the `j`-th positional parameter receives what slot `j` of
    `expectedSlots` holds for `oa`, the result of `ordered_arguments` (a value stored in `oa`,
    else a default; no theorem relates the parameter part of `oa` to `c.args`). Slot `j` is that
    parameter's own when positional-only parameters precede positional-or-keyword ones, as in
    every Python signature (`ViewWF` does not say so). -/
theorem C01_each_positional_parameter_receives_its_own (s : Sig) (wf : ViewWF s)
    (hs : (s.positionalParams.map (·.name)).Nodup) (c : Cfg) (b : Binding) (h : buildCall s c = .ok b) :
    ∃ oa front, c.orderedArguments s {} = .ok oa ∧
      b.var = (front ++ varArgs s oa).drop s.positionalParams.length ∧
      ∀ j p, j < front.length → s.positionalParams[j]? = some p →
        ∃ v, (expectedSlots false (varPresent s oa) oa s 0)[j]? = some (some v) ∧ (p.name, v) ∈ b.slots := by
  obtain ⟨oa, pos, kw, hoa, hta, hvar, _, hslots⟩ := C01_callable_receives_positionals s hs c b h
  obtain ⟨front, rfl, hexp⟩ := C01_never_misbinds s oa wf pos kw hta
  refine ⟨oa, front, hoa, hvar, fun j p hj hpj => ⟨front[j], hexp j hj, hslots _ _ ?_⟩⟩
  refine List.mem_of_getElem? (i := j) (List.getElem?_zip_eq_some.mpr ⟨hpj, ?_⟩)
  rw [List.getElem?_append_left hj]
  exact List.getElem?_eq_getElem hj

/-- **What cannot be bound raises**: more positional values than positional parameters without
    `*args`, or a keyword naming no keyword-capable parameter without `**kwargs`, is a
    `TypeError` — such a value is never dropped or moved to another parameter. -/
theorem C01_unbindable_call_raises (s : Sig) (pos : List Val) (kws : List (String × Val)) :
    (s.positionalParams.length < pos.length → s.hasVp = false → pyCall s pos kws = .error .typeError) ∧
    (∀ n v, (n, v) ∈ kws → s.isKwParam n = false → s.hasVk = false →
      pyCall s pos kws = .error .typeError) :=
  ⟨pyCall_excess_rejected kws, fun _ _ => pyCall_unknown_keyword_rejected pos⟩

/-- Non-vacuity: `def f(a)` called as `f(1, 2)` and as `f(1, z=2)`. -/
example : pyCall [⟨"a", .pk, false⟩] [.v 1, .v 2] [] = .error .typeError := rfl
example : pyCall [⟨"a", .pk, false⟩] [.v 1] [("z", .v 2)] = .error .typeError := rfl

/-- **Nothing is invented or renamed**: every keyword `transform_to_args_kwargs` returns in
    build mode is an entry of the dict `d` it was given, under the same name with the same value. -/
theorem C01_keywords_are_configured (s : Sig) (d : Dict Val) (hd : d.NodupKeys)
    (pos : List Val) (kw : Dict Val) (h : s.toArgsKwargs d false false = .ok (pos, kw))
    (k : Key) (v : Val) (hk : kw.get? k = some v) : d.get? k = some v :=
  Dict.get?_of_sublist (toArgsKwargs_rest h).1 hd hk

/-- **Keyword-only parameters and `**kwargs` entries are passed**: every entry of `d` whose name
    is not that of a positional-or-keyword parameter is passed by keyword with its value; no name
    is passed twice. (Not stated in this file: that a positional-or-keyword argument, which `hn`
    excludes, is passed by keyword when there is no `*args`.) -/
theorem C01_keyword_only_and_kwargs_passed (s : Sig) (d : Dict Val) (hd : d.NodupKeys)
    (pos : List Val) (kw : Dict Val) (h : s.toArgsKwargs d false false = .ok (pos, kw))
    (n : String) (v : Val) (hn : ∀ p ∈ s, p.kind = .pk → p.name ≠ n)
    (hv : d.get? (.name n) = some v) : kw.get? (.name n) = some v ∧ kw.NodupKeys :=
  let l := toArgsKwargs_rest h
  ⟨(l.2 n hn).trans hv, .sublist l.1 hd⟩

/-- **Keyword order is the configured order** (a callable may depend on it, PEP 468): keywords
    are passed in the relative order of the arguments handed to `transform_to_args_kwargs`. -/
theorem C01_keyword_order_kept (s : Sig) (d : Dict Val) (hd : d.NodupKeys)
    (pos : List Val) (kw : Dict Val) (h : s.toArgsKwargs d false false = .ok (pos, kw)) :
    kw.Sublist d :=
  (toArgsKwargs_rest h).1

/-- `ordered_arguments` (as `build` calls it) is the parameter part followed by exactly the
    extra entries of `__arguments__` in insertion order. (That `**kwargs` reach the callable in
    that order is the composition with `C01_keyword_order_kept` and
    `C01_callable_receives_keywords`, not stated.) -/
theorem C01_kwargs_in_configured_order (s : Sig) (c : Cfg) (hn : c.args.NodupKeys)
    (hs : (s.map (·.name)).Nodup) (oa : Dict Val) (h : c.orderedArguments s {} = .ok oa) :
    oa = Cfg.oaLoop c.args {} s 0 [] ++ c.args.filter (isExtra s) := by
  cases h  -- with `build`'s flags the result is `oaExtras s c.args (oaLoop c.args {} s 0 [])`
  refine oaExtras_append hn fun kv _ he => Bool.eq_false_iff.mpr fun hc => ?_
  -- no key of the parameter part is extra: not an index, not the name of a keyword-capable parameter
  refine oaLoop_keys (P := fun k => isExtra s (k, kv.2) ≠ true) (res := []) (fun _ => nofun)
    (fun p hp hvp hvk hpo => ?_) (fun _ h => nomatch h) _ (Dict.contains_iff_mem_keys.mp hc) he
  simp only [isExtra, show s.find? p.name = some p from find?_of_mem_nodup_map Param.name hs hp]
  simp [hvp, hvk, hpo]

end Fiddle
