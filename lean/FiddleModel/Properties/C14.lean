/-
C14 — tags select exactly the tagged arguments and survive every transformation.

Two layers of the model:
  * graph layer (`Model/Select.lean`): `Heap.setTagged` (= `set_tagged` = tag selection
    `.replace`), `listTags`, `taggedKeys` over every heap and every tag hierarchy `sub`;
  * ArgStore layer (`Model/ArgStore.lean`): `add_tag`, `remove_tag`, `clear_tags` on one
    Buildable, with the history log.
Survival of tags under copies / casts, serialization and diff application is stated through the
models of C07, C08 + C09 and C10. The copy and rebuild models carry an object's tags along as a
field no step touches, so there the tag conjunct is `rfl`: that the real copy / dump / load keeps
the tag sets rests on the correspondence check; only under diff application is survival a
consequence of the edits.
The expansion and build of `TaggedValue` are carried by the correspondence check and the oracle.
-/
import FiddleModel.Lemmas.SelectL
import FiddleModel.Lemmas.Ops
import FiddleModel.Lemmas.CopyL
import FiddleModel.Lemmas.DiffMain
import FiddleModel.Properties.C09

namespace Fiddle

/-- The arguments selected by tag `T`: those whose tag set contains `T` or a subclass of it. -/
theorem C14_tagged_keys (sub : Nat → Nat → Bool) (T : Nat) (o : GObj) (key : Key) :
    key ∈ taggedKeys sub T o ↔ ∃ ts, (key, ts) ∈ o.tags ∧ ∃ t ∈ ts, sub t T = true := by
  simp only [taggedKeys, List.mem_map, List.mem_filter, List.any_eq_true, Prod.exists,
    exists_and_right, exists_eq_right]

/-- After `set_tagged(root, tag=T, value=v)` every selected argument of every Buildable reachable
    BEFORE the call holds `v` (one reachable only through `v` is not covered) ... -/
theorem C14_set_tagged_hits (h : Heap) (root : GVal) (sub : Nat → Nat → Bool) (T : Nat) (v : GVal)
    (k : Nat) (hk : k ∈ reachableIds h root) (o : GObj) (ho : h[k]? = some o) (hc : o.kind = .cfg)
    (key : Key) (hkey : key ∈ taggedKeys sub T o) :
    ∃ o', (h.setTagged root sub T v)[k]? = some o' ∧ lk o'.children (pelemOfKey key) = some v := by
  refine ⟨_, by rw [setTagged_get, ho, Option.map_some], ?_⟩
  rw [if_pos (Bool.and_eq_true_iff.mpr ⟨List.contains_iff_mem.mpr hk, beq_iff_eq.mpr hc⟩)]
  exact lk_upsertAll_const pelemOfKey v o.children hkey

/-- ... no other argument of it has changed ... -/
theorem C14_set_tagged_other_args (h : Heap) (root : GVal) (sub : Nat → Nat → Bool) (T : Nat)
    (v : GVal) (k : Nat) (o : GObj) (ho : h[k]? = some o) (q : PElem)
    (hq : ∀ key ∈ taggedKeys sub T o, pelemOfKey key ≠ q) :
    ∃ o', (h.setTagged root sub T v)[k]? = some o' ∧ lk o'.children q = lk o.children q := by
  refine ⟨_, by rw [setTagged_get, ho, Option.map_some], ?_⟩
  split
  · exact lk_upsertAll_other _ (List.forall_mem_map.mpr hq)
  · rfl

/-- ... no tag, callable, type or signature has changed anywhere ... -/
theorem C14_set_tagged_keeps_tags (h : Heap) (root : GVal) (sub : Nat → Nat → Bool) (T : Nat)
    (v : GVal) (k : Nat) (o : GObj) (ho : h[k]? = some o) :
    ∃ o', (h.setTagged root sub T v)[k]? = some o' ∧ o'.tags = o.tags ∧ o'.ty = o.ty ∧
      o'.kind = o.kind ∧ o'.bk = o.bk ∧ o'.sig = o.sig ∧ o'.defaults = o.defaults := by
  refine ⟨_, by rw [setTagged_get, ho, Option.map_some], ?_⟩
  split <;> exact ⟨rfl, rfl, rfl, rfl, rfl, rfl⟩

/-- ... and objects that are not reachable Buildables are untouched. -/
theorem C14_set_tagged_frame (h : Heap) (root : GVal) (sub : Nat → Nat → Bool) (T : Nat) (v : GVal)
    (k : Nat) (hk : k ∉ reachableIds h root ∨ ∀ o, h[k]? = some o → o.kind ≠ .cfg) :
    (h.setTagged root sub T v)[k]? = h[k]? := by
  rw [setTagged_get]
  cases ho : h[k]? with
  | none => rfl
  | some o =>
    refine congrArg some (if_neg fun hsel => ?_)
    obtain ⟨h1, h2⟩ := Bool.and_eq_true_iff.mp hsel
    exact hk.elim (fun hk => hk (List.contains_iff_mem.mp h1)) (fun hk => hk o ho (eq_of_beq h2))

/-- `list_tags` is exactly the union of the tag sets over the reachable Buildables. -/
theorem C14_list_tags_exact (h : Heap) (root : GVal) (t : Nat) :
    t ∈ listTags h root ↔ ∃ i ∈ reachableIds h root, ∃ o, h[i]? = some o ∧ o.kind = .cfg ∧
      ∃ kt ∈ o.tags, t ∈ kt.2 := by
  rw [listTags, List.mem_eraseDups, List.mem_flatMap]
  refine exists_congr fun i => and_congr_right fun _ => ?_
  cases h[i]? with
  | none => simp only [List.not_mem_nil, reduceCtorEq, false_and, exists_false]
  | some o =>
    simp only [List.mem_ite_nil_right, beq_iff_eq, List.mem_flatMap, Option.some.injEq,
      exists_eq_left']

/-- ... without duplicates. -/
theorem C14_list_tags_nodup (h : Heap) (root : GVal) : (listTags h root).Nodup :=
  nodup_eraseDups _

/-- `add_tag` adds the tag to that argument and keeps its other tags (that no further tag appears
    is not stated), leaves the arguments and every other argument's tags alone. -/
theorem C14_add_tag (s : Sig) (c c' : Cfg) (k : Key) (t : Nat) (h : c.addTag s k t = .ok c') :
    ∃ key, Cfg.tagKey s c k = .ok key ∧ t ∈ c'.tagsOf key ∧ c'.args = c.args ∧
      (∀ u ∈ c.tagsOf key, u ∈ c'.tagsOf key) ∧
      ∀ k', key ≠ k' → c'.tags.get? k' = c.tags.get? k' := by
  revert h
  fun_cases Cfg.addTag s c k t
  case case2 key hk ts =>
    rintro ⟨⟩
    obtain ⟨hts, hargs, hrest⟩ := tags_written c key ts (.tags ts)
    refine ⟨key, hk, ?_, hargs, fun u hu => ?_, hrest⟩
    all_goals rw [hts]
    · exact (mem_tagInsert ..).mpr (.inr rfl)
    · exact (mem_tagInsert ..).mpr (.inl hu)
  all_goals nofun

/-- `remove_tag` removes that tag and keeps the argument's other tags (that none is added is not
    stated); removing a tag that is not there is an error. -/
theorem C14_remove_tag (s : Sig) (c c' : Cfg) (k : Key) (t : Nat)
    (h : c.removeTag s k t = .ok c') :
    ∃ key, Cfg.tagKey s c k = .ok key ∧ t ∈ c.tagsOf key ∧ t ∉ c'.tagsOf key ∧ c'.args = c.args ∧
      (∀ u ∈ c.tagsOf key, u ≠ t → u ∈ c'.tagsOf key) ∧
      ∀ k', key ≠ k' → c'.tags.get? k' = c.tags.get? k' := by
  revert h
  fun_cases Cfg.removeTag s c k t
  case case3 key hk hc ts =>
    rintro ⟨⟩
    obtain ⟨hts, hargs, hrest⟩ := tags_written c key ts (.tags ts)
    refine ⟨key, hk, by simpa using hc, ?_, hargs, fun u hu hne => ?_, hrest⟩
    all_goals rw [hts]
    · exact fun hm => absurd rfl (bne_iff_ne.mp (List.mem_filter.mp hm).2)
    · exact List.mem_filter.mpr ⟨hu, bne_iff_ne.mpr hne⟩
  all_goals nofun

/-- `clear_tags` empties that argument's tag set and nothing else. -/
theorem C14_clear_tags (s : Sig) (c c' : Cfg) (k : Key) (h : c.clearTags s k = .ok c') :
    ∃ key, Cfg.tagKey s c k = .ok key ∧ c'.tagsOf key = [] ∧ c'.args = c.args ∧
      ∀ k', key ≠ k' → c'.tags.get? k' = c.tags.get? k' := by
  revert h
  fun_cases Cfg.clearTags s c k
  case case2 key hk => rintro ⟨⟩; exact ⟨key, hk, tags_written c key [] _⟩
  all_goals nofun

/-- Deep copies (deepcopy, pickle round trip, deepcopy_with): the copy of a node has the node's
    tags (`rfl`, see the header). -/
theorem C14_tags_survive_deepcopy (h : Heap) (i : Nat) (o : GObj) (ho : h[i]? = some o) :
    ∃ o', (h.deepcopy)[i + h.length]? = some o' ∧ o'.tags = o.tags :=
  ⟨_, deepcopy_copy_some ho, rfl⟩

/-- Shallow copies and casts (copy, copy_with, cast): the new node has the copied node's tags
    (`rfl`, see the header). -/
theorem C14_tags_survive_shallow_copy (h : Heap) (i : Nat) (bk : Option String) (o : GObj)
    (ho : h[i]? = some o) :
    ∃ o', (h.shallowCopy i bk)[h.length]? = some o' ∧ o'.tags = o.tags :=
  ⟨_, shallowCopy_new bk ho, rfl⟩

/-- Applying `build_diff(old, new)` (one valid node each, as in C10; the phase order written out,
    tied to the source by `C10_apply_order_obligation`) gives every argument exactly the tag set
    it has in `new`. -/
theorem C14_tags_after_apply_diff (sg : Diff.Sigs) (old new : Diff.Flat) (ho : old.Valid sg)
    (hn : new.Valid sg) :
    ∃ r, Diff.applyPhases sg ["DeleteValue", "RemoveTag", "ModifyValue", "SetValue", "AddTag"]
        (Diff.flatDiff old new) old = .ok r ∧ ∀ n t, t ∈ r.tagsOf n ↔ t ∈ new.tagsOf n := by
  obtain ⟨r, hr, _, _, ht⟩ := Diff.flat_roundtrip sg old new ho hn
  exact ⟨r, hr, ht⟩

/-- `dump_json` then `load_json` (well-formed heap, no default objects): loading recreates the
    dumped table (`C09_load_of_dump`), and wherever a path leads to a node of the input, the same
    path in the table leads to a node of the same callable with the same tag sets (`rfl`, see the
    header). -/
theorem C14_tags_survive_serialization (h : Heap) (wf : h.WellFormed)
    (hd : ∀ o ∈ h, o.defaults = []) (root r : GVal) (st : RbSt)
    (hb : rebuild h root = .ok (r, st)) (p : Path) (i : Nat) (o : GObj)
    (hp : followPath h root p = some (.ref i)) (ho : h[i]? = some o) :
    (straightLine st.out r).run = some (r, st.out) ∧
      ∃ j o', followPath st.out r p = some (.ref j) ∧ st.out[j]? = some o' ∧
        o'.tags = o.tags ∧ o'.ty = o.ty ∧ o'.bk = o.bk := by
  refine ⟨C09_load_of_dump h wf hd root r st hb, ?_⟩
  obtain ⟨hi, _, hm⟩ := rebuild_spec wf hb
  obtain ⟨j, hj⟩ := Option.isSome_iff_exists.mp
    (followPath_memoized hi hm hp i rfl)
  obtain ⟨o2, ho2, hout⟩ := hi.mirror i j hj
  rw [ho] at ho2; cases ho2
  refine ⟨j, _, ?_, hout, rfl, rfl, rfl⟩
  rw [rebuild_faithful h wf root r st hb, hp]
  exact congrArg some (imageOf_of_get hj)

private def g : Heap :=
  [ { kind := .cfg, ty := "f", bk := "Config", children := [(.attr "x", .atom "1"), (.attr "y", .atom "2")],
      tags := [(.name "x", [3]), (.name "z", [1])] },
    { kind := .cfg, ty := "g", bk := "Config", children := [(.attr "a", .ref 0)] } ]

/-- tag 3 is a subclass of tag 1: selecting by 1 hits `x` (tagged 3) and the unset `z` -/
example : ((g.setTagged (.ref 1) (fun a b => a == b || (a == 3 && b == 1)) 1 (.atom "V"))[0]?).map
      (·.children) = some [(.attr "x", .atom "V"), (.attr "y", .atom "2"), (.attr "z", .atom "V")] ∧
    listTags g (.ref 1) = [3, 1] := ⟨by rfl, by rfl⟩

end Fiddle
