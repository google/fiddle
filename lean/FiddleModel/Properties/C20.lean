/-
C20 — meaning-preserving transformations preserve what is built.

Modelled and proved here: `materialize_defaults` on one Buildable (`Cfg.materializeDefaults`, the
loop of `materialize.py` over the ArgStore model; C20's own check runs it against the real function
after every generated edit history). When it succeeds, for every signature and every store, it
leaves the tags alone and only appends, for parameters that had no value, their own default under
their own key: under its own key every parameter shows the same value, else default, as before
(that `build` passes this value is C01's subject and not stated here), and a second run changes
nothing at all, history log included.
The other transformations of the property (with_defaults_trimmed, unintern_tuples_of_literals,
replace_unconfigured_partials_with_callables, clear_argument_history, materialize_tags,
auto_config.inline, convert_dataclasses_to_configs) have no Lean model; for them the check
compares builds of the real code before and after (see DESIGN.md) and this file proves nothing.
-/
import FiddleModel.Lemmas.Materialize

namespace Fiddle

theorem C20_materialize_result {s : Sig} {c c' : Cfg} (h : c.materializeDefaults s = .ok c') :
    MatResult s c c' :=
  (Cfg.materializeLoop_result h rfl).1

/-- Tags are not touched. -/
theorem C20_materialize_keeps_tags (s : Sig) (c c' : Cfg) (h : c.materializeDefaults s = .ok c') :
    c'.tags = c.tags := (C20_materialize_result h).tags

/-- Every configured argument keeps its value. -/
theorem C20_materialize_keeps_configured (s : Sig) (c c' : Cfg)
    (h : c.materializeDefaults s = .ok c') (k : Key) (v : Val) (hk : c.args.get? k = some v) :
    c'.args.get? k = some v := by
  obtain ⟨added, e, _⟩ := (C20_materialize_result h).ext
  rw [e, Dict.get?_append, hk]; rfl

/-- Each key is either unchanged, or was unset and now holds the default of the parameter it
    belongs to. -/
theorem C20_materialize_only_own_defaults (s : Sig) (c c' : Cfg)
    (h : c.materializeDefaults s = .ok c') (k : Key) :
    c'.args.get? k = c.args.get? k ∨
      (c.args.get? k = none ∧ ∃ v, c'.args.get? k = some v ∧ OwnDefault s (k, v)) := by
  obtain ⟨added, e, pa⟩ := (C20_materialize_result h).ext
  rw [e, Dict.get?_append]
  cases hd : c.args.get? k with
  | some v => exact .inl rfl
  | none =>
    cases ha : added.get? k with
    | none => exact .inl rfl
    | some v => exact .inr ⟨rfl, v, rfl, (pa _ (Dict.mem_of_get? ha)).2⟩

/-- The key under which parameter `p` of `s` is stored. -/
def OwnKey (s : Sig) (p : Param) (key : Key) : Prop :=
  (p.kind ≠ .po ∧ key = .name p.name) ∨ (p.kind = .po ∧ ∃ i : Nat, s[i]? = some p ∧ key = .idx i)

/-- **Every parameter keeps its value**: under its own key it has the same value after the
    transformation as before — its configured value, else its default. (That `build` passes this
    value is C01's subject.) -/
theorem C20_materialize_same_values (s : Sig) (c c' : Cfg) (h : c.materializeDefaults s = .ok c')
    (p : Param) (key : Key) (hown : OwnKey s p key) :
    (c'.args.get? key).getD (Sig.dfltVal p) = (c.args.get? key).getD (Sig.dfltVal p) := by
  rcases C20_materialize_only_own_defaults s c c' h key with e | ⟨hn, v, hv, ho⟩
  · rw [e]
  · rw [hn, hv, Option.getD_some, Option.getD_none]
    rcases hown with ⟨-, rfl⟩ | ⟨-, i, hi, rfl⟩
    · -- a default stored under `p`'s name is that of a parameter of that name
      obtain ⟨q, -, -, rfl, ⟨-, e⟩ | ⟨-, j, -, e⟩⟩ := ho
      · exact congrArg Val.d (Key.name.inj e).symm
      · cases e
    · exact (ho.idx hi).2

/-- Every key that is not a defaulted parameter's own key is exactly as before. (That the keys
    of `*args` and `**kwargs` entries are such keys is not stated.) -/
theorem C20_materialize_frame (s : Sig) (c c' : Cfg) (h : c.materializeDefaults s = .ok c')
    (k : Key) (hk : ∀ v, ¬ OwnDefault s (k, v)) : c'.args.get? k = c.args.get? k :=
  (C20_materialize_only_own_defaults s c c' h k).elim id fun ⟨_, v, _, ho⟩ => absurd ho (hk v)

/-- Afterwards every parameter that has a default and is not positional-only is explicitly
    set. -/
theorem C20_materialize_all_named_set (s : Sig) (c c' : Cfg)
    (h : c.materializeDefaults s = .ok c') (p : Param) (hp : p ∈ s) (hd : p.dflt = true)
    (hk : p.kind ≠ .po) : c'.args.contains (.name p.name) = true :=
  (Cfg.materializeLoop_result h rfl).2 p hp hd hk

/-- **Idempotence**: a second run changes nothing at all — arguments, tags, and not even the
    history log — for every signature (positional-only defaults and the "prefix is set" rule
    included). -/
theorem C20_idempotent (s : Sig) (c c' : Cfg) (h : c.materializeDefaults s = .ok c') :
    c'.materializeDefaults s = .ok c' :=
  Cfg.materializeLoop_noop h rfl

private def sg : Sig := [⟨"a", .pk, false⟩, ⟨"b", .pk, true⟩, ⟨"c", .ko, true⟩]
private def c0 : Cfg := { args := [(.name "a", .v 1), (.name "c", .v 2)], tags := [], hist := [], ctr := 0, tracking := true }

example : ∃ c', c0.materializeDefaults sg = .ok c' ∧
    c'.args = [(.name "a", .v 1), (.name "c", .v 2), (.name "b", .d "b")] :=
  ⟨_, rfl, rfl⟩

end Fiddle
