/-
C17 — read-only and copy-returning APIs never modify their input.

The APIs of the list are imperative Python functions; the property is the *absence* of writes
to the objects of the configuration passed in. In the heap model an API call has one of two
effects on the heap of configuration objects:
  * `readOnly`  — it allocates nothing that the caller can reach and writes nothing;
  * `allocOnly` — it returns a new or copied configuration: new objects are appended, existing
                  objects are not written.
Which effect each entry point of fiddle has is NOT proved: it is checked by the correspondence
run, which encodes the configuration before and after every call and compares the two encodings
(the driver echoes the heap it is sent — what either effect leaves of the input — so no
definition of the model enters that comparison). What is proved is that these two effects are
sufficient for the property as stated — the configuration "unchanged in callables, arguments,
tags and sharing structure": every object, and every path query from the configuration's
objects, answers exactly as before, also after the caller goes on to edit the returned copy.
The per-API models that exist (build: C02, traversals: C08, select: C15, ==: C06, list_tags: C14)
are functions of the heap that return results, not heaps, so they have the `readOnly` effect by
construction; the copies (C07) return heaps and are treated at the end of this file.
-/
import FiddleModel.Lemmas.CopyL
import FiddleModel.Lemmas.CodegenL

namespace Fiddle

inductive Effect | readOnly | allocOnly
deriving DecidableEq, Repr

/-- The heap after an API call with the given effect (`new` = the objects it allocated). -/
def applyEffect (e : Effect) (h new : Heap) : Heap :=
  match e with
  | .readOnly => h
  | .allocOnly => h ++ new

/-- Every object of the input is unchanged: same kind, callable, arguments, tags. -/
theorem C17_objects_unchanged (e : Effect) (h new : Heap) (i : Nat) (hi : i < h.length) :
    (applyEffect e h new)[i]? = h[i]? := by
  cases e with
  | readOnly => rfl
  | allocOnly => exact List.getElem?_append_left hi

/-- Whatever the caller then does to the objects the API returned, every path from the input
    leads to the same value as before (arguments and sharing structure as observed through
    paths are unchanged) ... -/
theorem C17_unchanged_after_editing_result (e : Effect) (h new h2 : Heap) (wf : h.WellFormed)
    (hedit : ∀ k, k < h.length → h2[k]? = (applyEffect e h new)[k]?) (i : Nat) (hi : i < h.length)
    (p : Path) : followPath h2 (.ref i) p = followPath h (.ref i) p :=
  followPath_agree wf (fun k hk => (hedit k hk).trans (C17_objects_unchanged e h new k hk)) p (.ref i) hi

/-- ... in particular right after the call. -/
theorem C17_paths_unchanged (e : Effect) (h new : Heap) (wf : h.WellFormed) (i : Nat)
    (hi : i < h.length) (p : Path) :
    followPath (applyEffect e h new) (.ref i) p = followPath h (.ref i) p :=
  C17_unchanged_after_editing_result e h new _ wf (fun _ _ => rfl) i hi p

/-- A sequence of such calls leaves every object of the input unchanged. -/
theorem C17_sequences (calls : List (Effect × Heap)) (h : Heap) (i : Nat) (hi : i < h.length) :
    (calls.foldl (fun h c => applyEffect c.1 h c.2) h)[i]? = h[i]? := by
  rw [List.getElem?_eq_getElem hi]
  refine foldl_inv (·[i]? = some h[i]) (List.getElem?_eq_getElem hi) fun h' hh c _ => ?_
  rw [C17_objects_unchanged c.1 h' c.2 i (List.getElem?_eq_some_iff.mp hh).1, hh]

/-- For the operations whose model *is* a heap transformer the effect is a theorem, not an
    observation: deep copies, shallow copies / casts, and the evaluation of an expression of
    generated code (the way a configuration printed by a code generator comes back; statement by
    statement a program does the same, `runAssigns_prefix`) only append to the heap. -/
theorem C17_deepcopy_is_alloc_only (h : Heap) :
    h.deepcopy = applyEffect .allocOnly h (h.map (shiftObj h.length)) := rfl

theorem C17_shallow_copy_is_alloc_only (h : Heap) (i : Nat) (bk : Option String) :
    ∃ new, h.shallowCopy i bk = applyEffect .allocOnly h new := by
  unfold Heap.shallowCopy applyEffect
  cases h[i]? with
  | none => exact ⟨[], by simp⟩
  | some o => exact ⟨_, rfl⟩

theorem C17_generated_code_is_alloc_only (e : CExpr) (env : CEnv) (h : Heap) (v : GVal) (h' : Heap)
    (he : e.eval env h = some (v, h')) : ∃ new, h' = applyEffect .allocOnly h new := by
  obtain ⟨t, rfl⟩ := CExpr.eval_prefix he
  exact ⟨t, rfl⟩

example : ((applyEffect .allocOnly [{ kind := .list }] [{ kind := .dict }])[0]?).map (·.kind) =
    some .list := rfl

end Fiddle
