/-
C11 — auto_config: building as_buildable() equals calling the function.

The body of an auto_config function is a program of `Model/Codegen.lean`'s statement language, with
two semantics. `as_buildable` evaluates a call expression by *creating a Config / Partial node* for
it (what the AST rewrite into `auto_config_call_handler` does): `CProg.run`. Calling the function
*invokes* the callable, and a display makes a container: `CProg.callRun`. The two run in lock-step,
so the direct call's object graph and the configuration DAG are the same heap, read once as
objects, once as Buildables; `fdl.build` of that DAG then creates one object per node with the same
arguments and the same sharing (C02).
What a callable receives is `bindBuilt` (the binding functions of C01 on the node's children) in
the direct call and in the build alike (`builtOf o` is `builtWith o` on the children read by `toB`,
by `rfl`), so the theorems say that objects, order and sharing agree, not that two bindings do. No
correspondence check runs `callRun`; the oracle compares real direct calls with real builds.
Calls of other auto_config functions, `exempt`, lambdas, `*`/`**` splats and control flow are
outside the modelled subset (checked by the oracle only): `_partial`.
-/
import FiddleModel.Lemmas.CodegenL
import FiddleModel.Lemmas.Build
import FiddleModel.Lemmas.CallEval

namespace Fiddle

/-- Each configurable call evaluated by `as_buildable` returns a new node, the last one created,
    and touches no existing node (what the node holds: `C12_constructor_is_fresh`). Calls among
    its arguments create their nodes before it: how many nodes are new is not bounded above. -/
theorem C11_call_creates_one_node (ty bk : String) (sig : Sig) (ch : List (PElem × CExpr))
    (tags : List (Key × List Nat)) (env : CEnv) (h : Heap) (v : GVal) (h' : Heap)
    (he : (CExpr.node .cfg ty bk sig ch tags).eval env h = some (v, h')) :
    (∃ n, v = .ref n ∧ h.length ≤ n ∧ h'.length = n + 1) ∧ h <+: h' := by
  refine ⟨?_, CExpr.eval_prefix he⟩
  obtain ⟨_, h1, hc, rfl, rfl⟩ := CExpr.eval_node_ok he
  exact ⟨h1.length, rfl, (CExpr.evalCh_prefix hc).length_le, List.length_append⟩

/-- A local variable used twice denotes one node: sharing in the function body is sharing in
    the configuration. -/
theorem C11_variable_is_shared_node (x : Nat) (env : CEnv) (h h2 : Heap) (v : GVal)
    (hx : env.lookup x = some v) :
    (CExpr.var x).eval env h = some (v, h) ∧ (CExpr.var x).eval env h2 = some (v, h2) := by
  simp [CExpr.eval, hx]

/-- C02 restated for the DAG `as_buildable` returned (`hp` is not used: this holds of every
    heap): building it mirrors it (`Mirror`), invokes no Buildable twice and gives distinct
    objects distinct results. -/
theorem C11_build_mirrors_program_partial (p : CProg) (root : GVal) (h : Heap)
    (hp : p.run = some (root, h)) (fails : List Nat) (r : BVal) (st : BuildSt)
    (hb : build h fails root = .ok (r, st)) :
    Mirror h st ∧ st.log.Nodup ∧
      (∀ i j a, memoGet st.memo i = some (.built a) → memoGet st.memo j = some (.built a) → i = j) :=
  have ⟨hi, hm, _⟩ := build_spec hb
  ⟨hm, hi.nodup, hi.inj⟩

/-- Calling the function and evaluating it into a configuration run in lock-step: same
    returned reference, and the direct call's objects are exactly the configuration's objects
    with each recorded call made (nothing else is created, in the same order). -/
theorem C11_direct_call_is_config_graph (p : CProg) (r : GVal) (out : List BObj)
    (hc : p.callRun = some (r, out)) :
    ∃ h, p.run = some (r, h) ∧ h.map builtOf = out.map some :=
  CProg.callRun_lockstep hc

/-- Conversely the direct call fails only where Python's binding of some call fails: if the
    program evaluates into a configuration all of whose recorded calls bind, the direct call
    returns (the same reference, with the lock-step image). -/
theorem C11_direct_call_succeeds_when_calls_bind (p : CProg) (r : GVal) (h : Heap)
    (hp : p.run = some (r, h)) (hall : ∀ o ∈ h, (builtOf o).isSome) :
    ∃ out, p.callRun = some (r, out) ∧ h.map builtOf = out.map some :=
  CProg.run_lockstep hp hall

/-- `fdl.build(fn.as_buildable())` is `fn()`: every built object the memo points at
    (`i ↦ .built j`) is the direct call's object `i`, up to the (one-to-one) renaming of
    references the memo induces; the built root is the image of the returned value. -/
theorem C11_build_equals_direct_call (p : CProg) (root root' : GVal) (out : List BObj) (h : Heap)
    (hc : p.callRun = some (root, out)) (hp : p.run = some (root', h))
    (r : BVal) (st : BuildSt) (hb : build h [] root' = .ok (r, st)) :
    root' = root ∧ r = renV (buildRen st) (toB root) ∧
    (∀ i j, memoGet st.memo i = some (.built j) →
      st.out[j]? = (out[i]?).map (renO (buildRen st))) ∧
    (∀ i j a, memoGet st.memo i = some (.built a) → memoGet st.memo j = some (.built a) → i = j) := by
  obtain ⟨h1, hp1, hi⟩ := CProg.callRun_lockstep hc
  rw [hp] at hp1
  cases hp1
  obtain ⟨hinv, hm, hr⟩ := build_spec hb
  exact ⟨rfl, (resultOf_eq_ren st root) ▸ hr.1,
    fun _ _ => built_is_renamed_call hi hm, hinv.inj⟩

/-- ... and the build does succeed: whenever the direct call of a program returns, `fdl.build`
    of the configuration `as_buildable` made for it returns too (the configuration is acyclic,
    every one of its calls binds, and the traversal's fuel suffices), so the previous theorem
    applies to every program of the language whose direct call returns. -/
theorem C11_build_of_as_buildable_succeeds (p : CProg) (root : GVal) (out : List BObj)
    (hc : p.callRun = some (root, out)) :
    ∃ h r st, p.run = some (root, h) ∧ build h [] root = .ok (r, st) := by
  obtain ⟨h, hp, hi⟩ := CProg.callRun_lockstep hc
  obtain ⟨wf, hr⟩ := CProg.run_wf hp
  obtain ⟨r, st, hb⟩ := build_total h wf hi.binds root hr
  exact ⟨h, r, st, hp, hb⟩

/-! ## Non-vacuity: `x = f(); return g(a=x, b=[x])` -/

private def prog : CProg :=
  { assigns := [(0, .node .cfg "f" "Config" [] [] [])],
    ret := .node .cfg "g" "Config" [] [(.attr "a", .var 0),
      (.attr "b", .node .list "" "" [] [(.index 0, .var 0)] [])] [] }

example : (prog.run).map (fun r => (r.1, r.2.map (·.children))) =
    some (.ref 2, [[], [(.index 0, .ref 0)], [(.attr "a", .ref 0), (.attr "b", .ref 1)]]) := by rfl

private def sigG : Sig := [{ name := "a", kind := .pk, dflt := false }, { name := "b", kind := .pk, dflt := false }]
private def prog2 : CProg :=
  { assigns := [(0, .node .cfg "f" "Config" [] [] [])],
    ret := .node .cfg "g" "Config" sigG [(.attr "a", .var 0),
      (.attr "b", .node .list "" "" [] [(.index 0, .var 0)] [])] [] }

example : prog2.callRun = some (.ref 2,
    [.call "f" [] [] [], .container .list "" [(.index 0, .built 0)],
     .call "g" [("a", .built 0), ("b", .built 1)] [] []]) := by rfl

end Fiddle
