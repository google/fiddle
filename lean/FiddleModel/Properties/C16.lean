/-
C16 — argument history is a faithful, ordered log of edits.

The model is `Model/ArgStore.lean` (`Cfg.log`, `Cfg.setValue`, `Cfg.delValue` and every edit built
from them).
-/
import FiddleModel.Model.Call
import FiddleModel.Model.Location
import FiddleModel.Lemmas.HistoryT
import FiddleModel.Lemmas.OpsTags
import FiddleModel.Generated.Tables

namespace Fiddle

def TrackedInv (c : Cfg) : Prop := HistInv c ∧ c.tracking = true

theorem TrackedInv_closed : Cfg.Closed TrackedInv := (HistInv_core.and (tracking_core true)).toClosed

/-- **Last entry is the current value.** After ANY history of attribute / index / slice edits
    (valid or rejected, of any length) applied to a state satisfying the invariant, every key's
    (`__fn_or_cls__` apart) last NEW_VALUE entry is its current value, or the deletion marker (or
    no entry at all) if the key is unset. -/
theorem C16_last_is_current (s : Sig) (c0 : Cfg) (ops : List Op) (h0 : TrackedInv c0) :
    ValuesFaithful (Cfg.run s c0 ops) :=
  let h := Cfg.run_closed TrackedInv_closed s ops c0 h0
  h.1.vals h.2

/-- **Sequence numbers** are strictly increasing in program order and all lie below the
    counter, after any history, with tracking on or off. (Of `HistInv c0` only `SeqOK c0` is
    used.) -/
theorem C16_seq_increasing (s : Sig) (c0 : Cfg) (ops : List Op) (h0 : HistInv c0) :
    SeqOK (Cfg.run s c0 ops) :=
  Cfg.run_closed SeqOK_core.toClosed s ops c0 h0.seq

/-- Unique within one configuration: `ctr` is a field of `Cfg`. Across configurations and threads
    it is `C19_sequence_unique`. -/
theorem C16_seq_unique (s : Sig) (c0 : Cfg) (ops : List Op) (h0 : HistInv c0) :
    ((Cfg.run s c0 ops).hist.map (·.seq)).Nodup :=
  List.pairwise_map.mpr ((C16_seq_increasing s c0 ops h0).1.imp Nat.ne_of_lt)

/-- **Suspended edits are silent**: with tracking off, no history of edits appends an entry
    or draws a sequence number. -/
theorem C16_suspended_silent (s : Sig) (c0 : Cfg) (ops : List Op) (h0 : c0.tracking = false) :
    (Cfg.run s c0 ops).hist = c0.hist ∧ (Cfg.run s c0 ops).ctr = c0.ctr :=
  (Cfg.run_closed (Silent_core c0.hist c0.ctr).toClosed s ops c0 ⟨h0, rfl, rfl⟩).2

/-- **The constructor establishes the invariant**: `TrackedInv` and `HistInv` above hold of every
    Buildable constructed with tracking on, whatever its signature and arguments. -/
theorem C16_constructed_inv (s : Sig) (args : List Val) (kwargs : List (String × Val))
    (ctr : Nat) (ann : List (String × List Nat)) (c : Cfg)
    (h : construct s args kwargs ctr true ann = some c) : TrackedInv c :=
  let h := construct_inv h
  ⟨h.1.base, h.2⟩

/-- **Last entry is the current value AND the current tag set.** After ANY history over the
    full alphabet `Op2` (tag edits, `materialize_defaults`, `assign`, `copy_with`,
    `update_callable` besides the edits above; valid or rejected, of any length) with tracking
    on, every key's (`__fn_or_cls__` apart) last NEW_VALUE entry is its current value (or the
    deletion marker / nothing if unset) and its last UPDATE_TAGS entry, if it has one, is its
    current tag set (that a key with tags has such an entry is not stated). -/
theorem C16_last_is_current_all_edits (s : Sig) (c0 : Cfg) (ops : List Op2) (h0 : TrackedInvT c0) :
    ValuesFaithful (Cfg.run2 (s, c0) ops).2 ∧ TagsFaithfulT (Cfg.run2 (s, c0) ops).2 :=
  let h := Cfg.run2_closed (HistInvT_core.and (tracking_core true)) ops (s, c0) h0
  ⟨h.1.base.vals h.2, h.1.tagsF h.2⟩

/-- Sequence numbers stay strictly increasing and below the counter over the full alphabet,
    whether or not tracking is on. -/
theorem C16_seq_increasing_all_edits (s : Sig) (c0 : Cfg) (ops : List Op2) (h0 : HistInvT c0) :
    SeqOK (Cfg.run2 (s, c0) ops).2 :=
  Cfg.run2_closed SeqOK_core ops (s, c0) h0.base.seq

/-- With tracking off, no history over the full alphabet appends an entry or draws a number. -/
theorem C16_suspended_silent_all_edits (s : Sig) (c0 : Cfg) (ops : List Op2)
    (h0 : c0.tracking = false) :
    (Cfg.run2 (s, c0) ops).2.hist = c0.hist ∧ (Cfg.run2 (s, c0) ops).2.ctr = c0.ctr :=
  (Cfg.run2_closed (Silent_core c0.hist c0.ctr) ops (s, c0) ⟨h0, rfl, rfl⟩).2

/-- The constructor (incl. TaggedValue arguments and `Annotated` tags) establishes the complete
    invariant. -/
theorem C16_constructed_inv_all (s : Sig) (args : List Val) (kwargs : List (String × Val))
    (ctr : Nat) (ann : List (String × List Nat)) (c : Cfg)
    (h : construct s args kwargs ctr true ann = some c) : TrackedInvT c :=
  construct_inv h

/-- Non-vacuity: a constructed Buildable, then a history over the full alphabet with tag edits on
    a set and on an unset parameter. -/
example : ∃ c0, construct [⟨"p", .pk, true⟩, ⟨"q", .pk, true⟩] [] [("p", .v 1)] = some c0 ∧
    (Cfg.run2 ([⟨"p", .pk, true⟩, ⟨"q", .pk, true⟩], c0)
      [.addTag (.name "p") 3, .setTags (.name "q") [1, 2], .materialize,
       .updateCallable [⟨"q", .pk, true⟩, ⟨"z", .ko, false⟩] true,
       .removeTag (.name "q") 2, .copyWith [("z", .v 5)]]).2.tagsOf (.name "q") = [1] :=
  ⟨_, rfl, rfl⟩

/-- **History never influences building**: what `build` passes to the callable is a function
    of the state with history, counter and tracking switch erased. Nothing is stated about
    equality: its model (`GObj`, C06) has no history. -/
theorem C16_never_observed (s : Sig) (c : Cfg) (h : List HEntry) (n : Nat) (t : Bool) :
    buildCall s { c with hist := h, ctr := n, tracking := t } = buildCall s c := rfl

/-- If every frame between the history-entry constructor and the user's frame lies in an
    excluded file and the user's frame does not, the recorded location is the user's frame. -/
theorem C16_location (excl : List String) (inner : List Frame) (user : Frame) (outer : List Frame)
    (hin : ∀ f ∈ inner, excluded excl f = true) (hu : excluded excl user = false) :
    locate excl (inner ++ user :: outer) = some user := by
  induction inner with
  | nil => simp [locate, hu]
  | cons f r ih =>
    rw [List.forall_mem_cons] at hin
    simp only [List.cons_append, locate, hin.1, if_true]
    exact ih hin.2

/-- Modules on the call path of a direct edit that the current source does NOT exclude from
    location attribution.  This is the open finding C16/tagging-location (known_findings.json):
    `fdl.add_tag` & co. are attributed to `fiddle/_src/tagging.py`; an existing unit test pins
    that behaviour, so it is recorded rather than repaired. -/
def knownUnexcludedModules : List String := ["fiddle/_src/tagging.py"]

/-- Table obligation, re-checked against the regenerated tables on every run: every module
    that calls `History.add_*` (a frame that can sit between a direct edit and the entry) is in
    `history._exclude_locations`, except the recorded finding. -/
theorem C16_edit_modules_excluded_partial :
    ∀ m ∈ Tables.historyCallModules, m ∈ Tables.excludeLocations ∨ m ∈ knownUnexcludedModules := by
  -- Not `decide` (it compares string literals byte by byte and is slow to check): each module is
  -- found in the list syntactically; one that is not there leaves a goal naming it.
  simp only [Tables.historyCallModules, Tables.excludeLocations, knownUnexcludedModules, List.mem_cons,
    forall_eq_or_imp, true_or, or_true, and_self, List.not_mem_nil, false_imp_iff, implies_true]

/-- `history.py` itself (where the entry constructor and the provider live) is excluded. -/
theorem C16_history_module_excluded : "fiddle/_src/history.py" ∈ Tables.excludeLocations := by
  simp only [Tables.excludeLocations, List.mem_cons, true_or, or_true]

/-- Code locations allowed to write a Buildable's `__arguments__` directly: the two logging
    hooks, the two constructors of a *fresh* store (`__init_callable__`, `__unflatten__`), and
    three passes that edit private rebuilt copies (code generation IR, printing). Everything
    else must go through the hooks, which is what `Cfg.Closed` / `Cfg.run_closed` model. -/
def allowedStoreWriters : List String := [
  "fiddle/_src/config.py:_arguments_set_value",
  "fiddle/_src/config.py:_arguments_del_value",
  "fiddle/_src/config.py:__init_callable__",
  "fiddle/_src/config.py:__unflatten__",
  "fiddle/_src/codegen/auto_config/make_symbolic_references.py:traverse",
  "fiddle/_src/codegen/newcg_symbolic_references.py:traverse",
  "fiddle/_src/printing.py:_rearrange_buildable_args"]

/-- Table obligation (regenerated from the source on every run): no other site writes
    `__arguments__` directly. Writes to `__argument_tags__` are not in the table. -/
theorem C16_all_writes_logged : ∀ w ∈ Tables.storeWriteSites, w ∈ allowedStoreWriters := by
  simp only [Tables.storeWriteSites, allowedStoreWriters, List.mem_cons, forall_eq_or_imp, true_or,
    or_true, and_self, List.not_mem_nil, false_imp_iff, implies_true]

/-- One change of a stored value appends exactly one entry, carrying the next sequence
    number, for that key (plain values, tracking on). -/
theorem C16_one_entry_per_set (c : Cfg) (k : Key) (n : Nat) (ht : c.tracking = true) :
    (c.setValue k (.v n)).hist = c.hist ++ [⟨c.ctr, k, .val (.v n)⟩]
      ∧ (c.setValue k (.v n)).ctr = c.ctr + 1 := by
  simp [Cfg.setValue, Cfg.log, ht]

theorem C16_one_entry_per_del (c c' : Cfg) (k : Key) (ht : c.tracking = true)
    (h : c.delValue k = .ok c') : c'.hist = c.hist ++ [⟨c.ctr, k, .deleted⟩] := by
  obtain ⟨_, rfl⟩ := Cfg.delValue_ok h
  exact log_hist_on _ _ ht

example : TrackedInv (({ } : Cfg)) := ⟨(HistInvT_empty 0 true).base, rfl⟩

example : (construct [⟨"a", .po, true⟩, ⟨"p", .pk, false⟩, ⟨"args", .vp, false⟩] [.v 1, .v 2, .v 3] []).isSome = true := rfl

end Fiddle
