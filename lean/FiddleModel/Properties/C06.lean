/-
C06 — `==` on Buildables is an equivalence.

Model: `Model/Eq.lean` (`valEq`: Python `==` over argument values with defaults filled in;
`shareVisit`: the lockstep sharing walk of `_same_sharing_structure`; `buildableEq` = both).
`buildableEq` is a total Boolean function, so "never raises" is part of the model's type; the
correspondence check ties that to the code (an exception in the real `__eq__` is a
correspondence failure).  History is not an input of the model (`GObj` has no history field):
that is the model's statement of "ignores assignment history".

On every well-formed heap (`Heap.EqWF`; the driver runs the Boolean check `eqWFB`, which implies it, on every request) `==`
is reflexive, symmetric and transitive, and different callables, Buildable types or argument
sets, or a failed sharing walk, each force `false`.  The sharing walk succeeds exactly when a
one-to-one closed correspondence between the objects of the two configurations exists
(`Lemmas/ShareL.lean`); that mentions no visiting order, whence symmetry, although the two
directions visit children in different orders, and independence of the order in which dict
entries or arguments were inserted; transitivity composes two correspondences.
Not proved (oracle only): congruence with `build`; that an unset parameter equals one explicitly
set to its default.
-/
import FiddleModel.Lemmas.EqL
import FiddleModel.Lemmas.ShareL
import FiddleModel.Lemmas.EqOrder
import FiddleModel.Lemmas.ShareTrans

namespace Fiddle

/-- Reflexive: every Buildable equals itself (value comparison and sharing walk both succeed). -/
theorem C06_reflexive (h : Heap) (wf : h.EqWF) (i : Nat) (o : GObj) (ho : h[i]? = some o) :
    buildableEq h h (.ref i) (.ref i) = true := by
  have hi := (List.getElem?_eq_some_iff.mp ho).1
  have hr : ∀ k, GVal.ref i = .ref k → k < h.length := fun k e => by cases e; exact hi
  -- the identity correspondence serves the walk
  exact (buildableEq_iff wf hr).mpr
    ⟨valEq_refl wf _ _ fun k e => ⟨ref_lt_mono hr (by omega) k e, hr k e⟩, _, Corr.refl wf,
      .inr ⟨i, i, rfl, rfl, List.mem_map.mpr ⟨i, List.mem_range.mpr hi, rfl⟩⟩⟩

/-- The value part of `==` is symmetric ... -/
theorem C06_values_symmetric (h1 h2 : Heap) (w1 : h1.EqWF) (w2 : h2.EqWF) (fuel : Nat) (v w : GVal)
    (h : valEq h1 h2 fuel v w = true) : valEq h2 h1 fuel w v = true := by
  refine valEq_induct ?_ ?_ fuel v w h
  · exact fun _ _ => valEq_atom_self ..
  · intro f i j a b ha hb n
    exact valEq_ref_ref.mpr
      ⟨b, a, hb, ha, n.symm (w1.keys i a ha) (w2.keys j b hb) fun _ _ _ _ e => e⟩

/-- ... and transitive (three configurations, any heaps). -/
theorem C06_values_transitive (h1 h2 h3 : Heap) (fuel : Nat) (u v w : GVal)
    (e1 : valEq h1 h2 fuel u v = true) (e2 : valEq h2 h3 fuel v w = true) :
    valEq h1 h3 fuel u w = true := by
  revert w
  refine valEq_induct ?_ ?_ fuel u v e1
  · intro f s w h
    cases w with
    | atom t => rw [valEq_atom_atom] at h ⊢; exact h
    | ref k => rw [valEq_atom_ref] at h; cases h
  · intro f i j a b ha hb n w h
    cases w with
    | atom t => rw [valEq_ref_atom] at h; cases h
    | ref k =>
      obtain ⟨b', c, hb', hc, n'⟩ := valEq_ref_ref.mp h
      cases hb.symm.trans hb'
      exact valEq_ref_ref.mpr ⟨a, c, ha, hc, n.trans n' fun _ _ _ e => e _⟩

/-- Different callables, node types or Buildable subclasses are never equal. -/
theorem C06_distinguishes_callable_and_type (h1 h2 : Heap) (i j : Nat) (a b : GObj)
    (ha : h1[i]? = some a) (hb : h2[j]? = some b)
    (hne : a.kind ≠ b.kind ∨ a.ty ≠ b.ty ∨ a.bk ≠ b.bk) :
    buildableEq h1 h2 (.ref i) (.ref j) = false :=
  buildableEq_false_of_node ha hb fun _ n => hne.elim (· n.1.1) (·.elim (· n.1.2.1) (· n.1.2.2))

/-- A leaf is never equal to a different leaf. -/
theorem C06_distinguishes_atoms (h1 h2 : Heap) (s t : String) (hne : s ≠ t) :
    buildableEq h1 h2 (.atom s) (.atom t) = false := by
  simp [buildableEq, hne]

/-- Different numbers of (defaults-completed) arguments are never equal. -/
theorem C06_distinguishes_argument_sets (h1 h2 : Heap) (i j : Nat) (a b : GObj)
    (ha : h1[i]? = some a) (hb : h2[j]? = some b) (hk : a.kind = .cfg)
    (hl : (childrenWithDefaults a).length ≠ (childrenWithDefaults b).length) :
    buildableEq h1 h2 (.ref i) (.ref j) = false :=
  buildableEq_false_of_node ha hb fun _ n => hl (n.of_cfg hk).1

/-- An argument a Buildable lacks on the other side (after defaults) makes them unequal. -/
theorem C06_distinguishes_missing_argument (h1 h2 : Heap) (i j : Nat) (a b : GObj)
    (ha : h1[i]? = some a) (hb : h2[j]? = some b) (hk : a.kind = .cfg)
    (x : PElem × GVal) (hx : x ∈ childrenWithDefaults a)
    (hmiss : lookupChild (childrenWithDefaults b) x.1 = none) :
    buildableEq h1 h2 (.ref i) (.ref j) = false :=
  buildableEq_false_of_node ha hb fun _ n =>
    let ⟨_, hy, _⟩ := (n.of_cfg hk).2 x hx; nomatch hmiss.symm.trans hy

/-- Sharing structure: once object `i` of the left configuration has been matched with `j'`,
    the visit that meets it again opposite a different object `j` fails (neither internable) ... -/
theorem C06_distinguishes_sharing_left (h1 h2 : Heap) (fuel i j j' : Nat) (st : ShareSt)
    (hint : (isInternable h1 (h1.length + 1) (.ref i) ||
      isInternable h2 (h2.length + 1) (.ref j)) = false)
    (hm : assocGet st.xToY i = some j') (hne : j' ≠ j) :
    shareVisit h1 h2 (fuel + 1) (.ref i) (.ref j) st = none := by
  rw [shareVisit, hint, hm]
  cases assocGet st.yToX j <;> simp [hne]

/-- ... and so does the visit that meets `j` of the right configuration, matched with `i'`,
    opposite a different `i`. -/
theorem C06_distinguishes_sharing_right (h1 h2 : Heap) (fuel i j i' : Nat) (st : ShareSt)
    (hint : (isInternable h1 (h1.length + 1) (.ref i) ||
      isInternable h2 (h2.length + 1) (.ref j)) = false)
    (hm : assocGet st.yToX j = some i') (hne : i' ≠ i) :
    shareVisit h1 h2 (fuel + 1) (.ref i) (.ref j) st = none := by
  rw [shareVisit, hint, hm]
  cases assocGet st.xToY i <;> simp [hne]

/-- A failed sharing walk makes `==` false whatever the values are. -/
theorem C06_sharing_mismatch_is_unequal (h1 h2 : Heap) (r1 r2 : GVal)
    (hs : shareVisit h1 h2 (h1.length + h2.length + 2) r1 r2 {} = none) :
    buildableEq h1 h2 r1 r2 = false := by
  simp [buildableEq, hs]

/-- **What the sharing walk decides**: it succeeds exactly when there is a one-to-one
    correspondence `B` between objects of the two configurations that pairs the roots and is
    closed — paired objects have the same keys, and their children under equal keys are paired
    again (a pair with an internable side, the roots included, is skipped instead; opaque values
    are paired but not entered). -/
theorem C06_sharing_walk_characterised (h1 h2 : Heap) (w1 : h1.EqWF) (r1 r2 : GVal)
    (hr : ∀ i, r1 = .ref i → i < h1.length) :
    (shareVisit h1 h2 (h1.length + h2.length + 2) r1 r2 {}).isSome = true ↔
      ∃ B, Corr h1 h2 B ∧ Rec h1 h2 B r1 r2 :=
  shareVisit_iff w1 (ref_lt_mono hr (by omega))

/-- The correspondence the walk itself builds is one-to-one and closed and contains the root
    pair unless that is skipped, hence every pair reached from it; the walk's second map is its
    inverse. -/
theorem C06_sharing_walk_result (h1 h2 : Heap) (fuel : Nat) (r1 r2 : GVal) (st : ShareSt)
    (h : shareVisit h1 h2 fuel r1 r2 {} = some st) :
    Corr h1 h2 st.xToY ∧ Rec h1 h2 st.xToY r1 r2 ∧ st.yToX = st.xToY.map Prod.swap := by
  have ok := shareVisit_sound ShareSt.inv_empty h
  exact ⟨ok.corr, ok.recd, ok.inv.inv⟩

/-- **`==` is symmetric**: values (`C06_values_symmetric`) and sharing walk together. -/
theorem C06_symmetric (h1 h2 : Heap) (w1 : h1.EqWF) (w2 : h2.EqWF) (r1 r2 : GVal)
    (hr1 : ∀ i, r1 = .ref i → i < h1.length) (hr2 : ∀ j, r2 = .ref j → j < h2.length)
    (h : buildableEq h1 h2 r1 r2 = true) : buildableEq h2 h1 r2 r1 = true := by
  obtain ⟨hv, B, hB, hr⟩ := (buildableEq_iff w1 hr1).mp h
  -- the swapped correspondence serves the walk in the other direction
  refine (buildableEq_iff w2 hr2).mpr ⟨?_, B.map Prod.swap, hB.swap w1 w2, hr.swap⟩
  rw [Nat.add_comm h2.length]
  exact C06_values_symmetric h1 h2 w1 w2 _ r1 r2 hv

/-- **`==` is transitive** (three configurations, any three heaps): values by
    `C06_values_transitive`, sharing by composing the two one-to-one correspondences. -/
theorem C06_transitive (h1 h2 h3 : Heap) (w1 : h1.EqWF) (w2 : h2.EqWF) (w3 : h3.EqWF)
    (x y z : GVal) (hx : ∀ i, x = .ref i → i < h1.length) (hy : ∀ j, y = .ref j → j < h2.length)
    (hz : ∀ k, z = .ref k → k < h3.length)
    (e12 : buildableEq h1 h2 x y = true) (e23 : buildableEq h2 h3 y z = true) :
    buildableEq h1 h3 x z = true := by
  obtain ⟨v12, B, hB, rB⟩ := (buildableEq_iff w1 hx).mp e12
  obtain ⟨v23, C, hC, rC⟩ := (buildableEq_iff w2 hy).mp e23
  refine (buildableEq_iff w1 hx).mpr ⟨?_, _, Corr.comp w1 w2 w3 hB hC (by omega) (by omega),
    Rec.comp w1 w2 w3 rB rC v12 v23 hx hy hz⟩
  -- values: bring the two comparisons to one fuel, compose, and come back
  exact valEq_of_fuel w1 (C06_values_transitive h1 h2 h3 (h1.length + h2.length + h3.length + 2) x y z
    (valEq_of_fuel w1 v12 _ (ref_lt_mono hx (by omega)))
    (valEq_of_fuel w2 v23 _ (ref_lt_mono hy (by omega)))) _ (ref_lt_mono hx (by omega))

/-- **`==` ignores dict insertion order and argument assignment order**: listing the entries of
    any dicts, defaultdicts or Buildables (on either side) in another order does not change the
    answer of `==` (all four heaps well-formed, the left root inside its heap). -/
theorem C06_insertion_order_ignored (h1 h1' h2 h2' : Heap) (r1 : Reordered h1 h1')
    (r2 : Reordered h2 h2') (w1 : h1.EqWF) (w1' : h1'.EqWF) (w2 : h2.EqWF) (w2' : h2'.EqWF)
    (x y : GVal) (hx : ∀ i, x = .ref i → i < h1.length) :
    buildableEq h1' h2' x y = buildableEq h1 h2 x y :=
  Bool.eq_iff_iff.mpr ⟨buildableEq_reordered r1.symm r2.symm w1' w1 w2' (r1.len ▸ hx),
    buildableEq_reordered r1 r2 w1 w1' w2 hx⟩

private def dAB : Heap :=
  [ { kind := .list, children := [] },
    { kind := .dict, children := [(.key "a", .ref 0), (.key "b", .atom "2")] } ]
private def dBA : Heap :=
  [ { kind := .list, children := [] },
    { kind := .dict, children := [(.key "b", .atom "2"), (.key "a", .ref 0)] } ]

/-- a dict with its two entries swapped is a reordering -/
example : Reordered dAB dBA := by
  refine ⟨rfl, fun i o ho => ?_⟩
  rcases i with _ | _ | n <;> cases ho
  · exact ⟨_, rfl, rfl, rfl, rfl, .refl _, .refl _, fun _ => rfl⟩
  · exact ⟨_, rfl, rfl, rfl, rfl, .swap _ _ _, .swap _ _ _, fun h => by cases h⟩

private def two : Heap :=
  [ { kind := .list, children := [] },
    { kind := .cfg, ty := "f", bk := "Config", children := [(.attr "a", .ref 0), (.attr "b", .ref 0)] } ]
private def twoSplit : Heap :=
  [ { kind := .list, children := [] }, { kind := .list, children := [] },
    { kind := .cfg, ty := "f", bk := "Config", children := [(.attr "a", .ref 0), (.attr "b", .ref 1)] } ]

example : two.EqWF := Heap.eqWF_of_B two (by decide)
/-- equal values, different sharing: not equal, in both directions -/
example : buildableEq two twoSplit (.ref 1) (.ref 2) = false ∧
    buildableEq twoSplit two (.ref 2) (.ref 1) = false ∧
    buildableEq two two (.ref 1) (.ref 1) = true :=
  ⟨C06_sharing_mismatch_is_unequal _ _ _ _ (by decide),
    C06_sharing_mismatch_is_unequal _ _ _ _ (by decide),
    C06_reflexive _ (Heap.eqWF_of_B _ (by decide)) _ _ rfl⟩

end Fiddle
