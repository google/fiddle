/-
C02 — one invocation per Buildable instance; built graph mirrors config graph.

The model is `build` (`Model/Graph.lean`): `MemoizedTraversal.apply` specialised to
`building.py::_build`, over heaps in which object identity is the heap index. `st.log` is the
invocation log (ids of Buildables whose callable ran, in order), `st.memo` the traversal memo.
The theorems about a build that returned are projections of `build_spec` (`Lemmas/Build.lean`).

Carried by the correspondence check only: "separate fdl.build calls share no built objects"
(the model allocates a fresh result heap per `build`, so the statement is definitional there)
and the pinning of memo keys against `id` reuse (object identity is abstract in the model).
-/
import FiddleModel.Lemmas.Build
import FiddleModel.Lemmas.Basic
import FiddleModel.Lemmas.Traverse

namespace Fiddle

/-- No Buildable instance is invoked twice. -/
theorem C02_invoked_at_most_once (h : Heap) (fails : List Nat) (root : GVal) (r : BVal)
    (st : BuildSt) (hb : build h fails root = .ok (r, st)) : st.log.Nodup :=
  (build_spec hb).1.nodup

/-- Every Buildable instance reachable from the root is invoked. -/
theorem C02_every_reachable_invoked (h : Heap) (fails : List Nat) (i : Nat) (r : BVal)
    (st : BuildSt) (hb : build h fails (.ref i) = .ok (r, st))
    (k : Nat) (ok : GObj) (hr : Reach h i k) (hk : h[k]? = some ok) (hc : ok.kind = .cfg) :
    k ∈ st.log :=
  have ⟨hi, _, b⟩ := build_spec hb
  hi.cfgLogged k ok hk hc (hi.reach_memoized hr (Option.isSome_of_eq_some (b.2 i rfl)))

/-- ... exactly once: the log, as a list, contains every reachable Buildable once. -/
theorem C02_exactly_once (h : Heap) (fails : List Nat) (i : Nat) (r : BVal)
    (st : BuildSt) (hb : build h fails (.ref i) = .ok (r, st))
    (k : Nat) (ok : GObj) (hr : Reach h i k) (hk : h[k]? = some ok) (hc : ok.kind = .cfg) :
    st.log.count k = 1 := by
  rw [(C02_invoked_at_most_once h fails _ r st hb).count]
  exact if_pos (C02_every_reachable_invoked h fails i r st hb k ok hr hk hc)

/-- An invocation happens after the invocation of every Buildable it depends on, directly or
    through any nesting of containers and other Buildables. -/
theorem C02_dependencies_first (h : Heap) (fails : List Nat) (root : GVal) (r : BVal)
    (st : BuildSt) (hb : build h fails root = .ok (r, st))
    (pre : List Nat) (i : Nat) (post : List Nat) (hl : st.log = pre ++ i :: post)
    (o : GObj) (ho : h[i]? = some o) (pv : PElem × GVal) (hpv : pv ∈ o.children) (j : Nat)
    (hj : pv.2 = .ref j) (k : Nat) (ok : GObj) (hr : Reach h j k) (hk : h[k]? = some ok)
    (hc : ok.kind = .cfg) : k ∈ pre :=
  (build_spec hb).1.ordered pre i post hl o ho pv hpv j hj k ok hr hk hc

/-- A reference to an object the memo already holds returns the memoized result and changes
    nothing: no invocation, no new result object, whatever the kind of object. This is the
    memo-hit branch of `buildVal`; that an object built earlier is in the memo is
    `C02_result_memoized`. -/
theorem C02_same_reference_same_result (h : Heap) (fails : List Nat) (fuel : Nat) (i : Nat)
    (path : Path) (st : BuildSt) (r : BVal) (hm : memoGet st.memo i = some r) :
    buildVal h fails (fuel + 1) (.ref i) path st = .ok (r, st) := by
  rw [buildVal, hm]

/-- The result returned for an object is what the memo holds for it from then on. -/
theorem C02_result_memoized (h : Heap) (fails : List Nat) (fuel : Nat) (i : Nat) (path : Path)
    (st st' st'' : BuildSt) (r : BVal) (hi : st.Inv h)
    (hb : buildVal h fails fuel (.ref i) path st = .ok (r, st'))
    (later : BuildSt.Step h st' st'') : memoGet st''.memo i = some r :=
  later.memoMono i r ((buildVal_step hb hi).2.1.2 i rfl)

/-- Distinct instances give distinct built objects, whether or not they are equal. -/
theorem C02_distinct_instances_distinct_results (h : Heap) (fails : List Nat) (root : GVal)
    (r : BVal) (st : BuildSt) (hb : build h fails root = .ok (r, st))
    (i j a : Nat) (hi : memoGet st.memo i = some (.built a))
    (hj : memoGet st.memo j = some (.built a)) : i = j :=
  (build_spec hb).1.inj i j a hi hj

/-- Built results are objects of this build's own result heap. -/
theorem C02_results_in_own_heap (h : Heap) (fails : List Nat) (root : GVal)
    (r : BVal) (st : BuildSt) (hb : build h fails root = .ok (r, st))
    (i a : Nat) (hi : memoGet st.memo i = some (.built a)) : a < st.out.length :=
  (build_spec hb).1.fresh i a hi

/-- The invocation log only grows during a traversal (what was invoked stays invoked). -/
theorem C02_log_append_only (h : Heap) (fails : List Nat) (fuel : Nat) (v : GVal) (path : Path)
    (st st' : BuildSt) (r : BVal) (hi : st.Inv h)
    (hb : buildVal h fails fuel v path st = .ok (r, st')) : st.log <+: st'.log :=
  (buildVal_step hb hi).1.logPrefix

/-- The built graph mirrors the config graph: every built object the memo points at is the image
    of its configuration object — a Buildable became one call of its callable on the images of its
    arguments (bound by `bindBuilt`: `transform_to_args_kwargs` and Python's call binding, the
    functions C01 is about, on the stored children), a list / tuple / dict became a container of
    the same kind holding the images of its elements under the same keys. -/
theorem C02_built_graph_mirrors_config_graph (h : Heap) (fails : List Nat) (root : GVal)
    (r : BVal) (st : BuildSt) (hb : build h fails root = .ok (r, st)) : Mirror h st :=
  (build_spec hb).2.1

/-- ... and the value returned for the root is what the memo reads for the root. (`resultOf` reads
    `.atom "?"` where the memo holds nothing: that the root is memoized is in `build_spec`, not
    in this statement.) -/
theorem C02_root_result (h : Heap) (fails : List Nat) (i : Nat) (r : BVal) (st : BuildSt)
    (hb : build h fails (.ref i) = .ok (r, st)) : r = resultOf st.memo (.ref i) :=
  (build_spec hb).2.2.1

/-- The theorems above are about builds that return; this one says when they do: on every
    acyclic configuration (children before parents in the heap) all of whose calls bind and none
    of whose callables raises, `fdl.build` returns — no spurious cycle error, whatever the
    sharing, depth or size. (`build` passes `|heap| + 1` as fuel: it suffices. Python's recursion
    limit, which stops the real build of a chain some 200 deep, is not modelled.) -/
theorem C02_build_returns (h : Heap) (wf : h.WellFormed) (hb : h.Binds) (root : GVal)
    (hr : ∀ i, root = .ref i → i < h.length) : ∃ r st, build h [] root = .ok (r, st) :=
  build_total h wf hb root hr

/-! ## Non-vacuity: a Buildable referenced twice through a list is invoked once and the list
    holds the same built object twice. -/

private def leaf : GObj := { kind := .cfg, ty := "leaf", sig := [] }
private def shared2 : Heap :=
  [ leaf, { kind := .list, children := [(.index 0, .ref 0), (.index 1, .ref 0)] } ]
private theorem leaf_binds : bindBuilt leaf [] = .ok ([], [], []) := by decide
@[simp] private theorem leaf_children : leaf.children = [] := rfl
@[simp] private theorem leaf_kind : leaf.kind = .cfg := rfl
@[simp] private theorem leaf_ty : leaf.ty = "leaf" := rfl

example : ∃ st, build shared2 [] (.ref 1) = .ok (.built 1, st) ∧ st.log = [0] ∧
    st.out.length = 2 ∧
    st.out[1]? = some (.container .list "" [(.index 0, .built 0), (.index 1, .built 0)]) := by
  simp [build, shared2, buildVal, buildChildren, memoGet_cons, memoGet_nil, leaf_binds]

example : shared2.WellFormed ∧ shared2.Binds ∧ ∃ r st, build shared2 [] (.ref 1) = .ok (r, st) := by
  have wf : shared2.WellFormed := Heap.wellFormed_of_B shared2 (by decide)
  have hb : shared2.Binds := List.forall_mem_cons.mpr
    ⟨fun _ vals => bindBuilt_ok_indep vals leaf_binds, List.forall_mem_singleton.mpr fun h => nomatch h⟩
  exact ⟨wf, hb, C02_build_returns shared2 wf hb (.ref 1) fun _ h => GVal.ref.inj h ▸ Nat.le.refl⟩

end Fiddle
