/-
C08 — traversal paths are sound and complete.

Model: `Model/Graph.lean` (`followPath`, `iterate` in its three modes, `collectPathsById`,
`allPathsTo`), over heaps whose object identity is the heap index. Hypotheses, both decidable
and both checked by the driver on every heap it is sent (a request violating either is refused,
which stops the check with an infrastructure error, exit 2):
  * `Heap.PathsDistinct` — the path elements of one object's children are distinct;
  * `Heap.WellFormed`    — children refer to earlier objects (the structure is acyclic).

Proved here for every heap and root: in all three modes soundness of every reported pair; for
the un-memoized traversal (`.basic`) completeness and no duplicate path; for the memoized one
(`.memo`) exactly one report per reachable mutable object (for `.memoNoInternables` there is
soundness only); `allPathsTo` lists exactly the paths that reach a memoizable object.
Also proved: the identity rebuild (`MemoizedTraversal.run(lambda v, s: s.map_children(v), x)`)
returns on every well-formed heap and yields a structure of the same types, path for path equal,
with the same sharing; rebuilding the result reproduces it.
Judged by the oracle only: the cycle error of `iterate`
(cyclic structures are outside well-formed heaps; `build`'s cycle error is in the model).
-/
import FiddleModel.Lemmas.Traverse
import FiddleModel.Lemmas.RebuildL
import FiddleModel.Lemmas.RebuildStable

namespace Fiddle

/-- Soundness, all modes: each reported (value, path) satisfies `follow_path(root, path) is value`. -/
theorem C08_sound (h : Heap) (hd : h.PathsDistinct) (mode : IterMode) (root : GVal)
    (v : GVal) (p : Path) (hm : (v, p) ∈ iterate h mode root) : followPath h root p = some v :=
  iterate_sound hd mode root (v, p) hm

/-- Completeness of the un-memoized traversal: every path that reaches a value is reported (a
    valid path is shorter than the fuel). -/
theorem C08_basic_complete (h : Heap) (wf : h.WellFormed) (root v : GVal) (p : Path)
    (hf : followPath h root p = some v) : (v, p) ∈ iterate h .basic root :=
  iterate_basic h root ▸ pairs_complete [] hf (followPath_length_heap wf hf)

/-- The un-memoized traversal reports exactly the valid paths, each with its value ... -/
theorem C08_basic_exact (h : Heap) (wf : h.WellFormed) (hd : h.PathsDistinct) (root v : GVal)
    (p : Path) : (v, p) ∈ iterate h .basic root ↔ followPath h root p = some v :=
  ⟨C08_sound h hd .basic root v p, C08_basic_complete h wf root v p⟩

/-- ... exactly once: no path is reported twice. -/
theorem C08_basic_no_duplicates (h : Heap) (hd : h.PathsDistinct) (root : GVal) :
    ((iterate h .basic root).map (·.2)).Nodup := by
  rw [iterate_basic]; exact pairs_paths_nodup hd _ root []

/-- The memoized traversal (`.memo`) reports a mutable object at most once ... -/
theorem C08_memo_at_most_once (h : Heap) (root : GVal) :
    (refIds (iterate h .memo root)).Nodup :=
  reachableIds_nodup h root

/-- ... and reports every mutable object reachable from the root. -/
theorem C08_memo_complete (h : Heap) (wf : h.WellFormed) (i : Nat) (hi : i < h.length)
    (j : Nat) (hr : ReachA h i j) : j ∈ refIds (iterate h .memo (.ref i)) :=
  reachableIds_of_reach wf hi hr

theorem C08_memo_exactly_once (h : Heap) (wf : h.WellFormed) (i : Nat) (hi : i < h.length)
    (j : Nat) (hr : ReachA h i j) : (refIds (iterate h .memo (.ref i))).count j = 1 := by
  rw [(C08_memo_at_most_once h (.ref i)).count, if_pos (C08_memo_complete h wf i hi j hr)]

/-- The paths `collect_paths_by_id` lists for a memoizable object (`allPathsTo`) are exactly the
    paths that reach it. `State.get_all_paths` (`getAllPaths`: this list for a memoizable value,
    for an immutable one the paths of its nearest memoizable ancestor, extended) occurs in no
    theorem: correspondence check only. -/
theorem C08_all_paths_exact (h : Heap) (wf : h.WellFormed) (hd : h.PathsDistinct) (root : GVal)
    (i : Nat) (p : Path) : p ∈ allPathsTo h root i ↔ followPath h root p = some (.ref i) := by
  rw [← C08_basic_exact h wf hd, allPathsTo_eq, List.mem_map]
  constructor
  · rintro ⟨⟨w, q⟩, hm, rfl⟩
    obtain ⟨hm, hw⟩ := List.mem_filter.mp hm
    exact eq_of_beq hw ▸ hm
  · intro hm
    exact ⟨(.ref i, p), List.mem_filter.mpr ⟨hm, BEq.rfl⟩, rfl⟩

/-- ... and no path is listed twice. -/
theorem C08_all_paths_nodup (h : Heap) (hd : h.PathsDistinct) (root : GVal) (i : Nat) :
    (allPathsTo h root i).Nodup := by
  rw [allPathsTo_eq]
  exact (List.filter_sublist.map _).nodup (C08_basic_no_duplicates h hd root)

/-- The identity rebuild returns on every acyclic structure, whatever its size, depth or
    sharing (the traversal's fuel `|heap| + 1` suffices). -/
theorem C08_rebuild_returns (h : Heap) (wf : h.WellFormed) (root : GVal)
    (hr : ∀ i, root = .ref i → i < h.length) : ∃ r st, rebuild h root = .ok (r, st) :=
  rebuild_total h wf root hr

/-- Rebuilding through an identity traversal gives a structure of the same types: every new
    object is the copy of an original object, with the same kind, type / callable,
    tags and keys ... -/
theorem C08_rebuild_same_types (h : Heap) (wf : h.WellFormed) (root r : GVal) (st : RbSt)
    (hb : rebuild h root = .ok (r, st)) (j : Nat) (o' : GObj) (hj : st.out[j]? = some o') :
    ∃ i o, rbGet st.memo i = some j ∧ h[i]? = some o ∧ o'.kind = o.kind ∧ o'.ty = o.ty ∧
      o'.bk = o.bk ∧ o'.tags = o.tags ∧ o'.children.map (·.1) = o.children.map (·.1) := by
  obtain ⟨i, o, hij, ho, rfl⟩ := rebuilt_out_object (rebuild_spec wf hb).1 hj
  refine ⟨i, o, hij, ho, rfl, rfl, rfl, rfl, ?_⟩
  rw [copyOf, List.zip_map', List.map_map]; rfl

/-- ... an equal structure: following any path in the result leads to the copy of what the
    same path leads to in the original ... -/
theorem C08_rebuild_faithful (h : Heap) (wf : h.WellFormed) (root r : GVal) (st : RbSt)
    (hb : rebuild h root = .ok (r, st)) (p : Path) :
    followPath st.out r p = (followPath h root p).map (imageOf st.memo) :=
  rebuild_faithful h wf root r st hb p

/-- ... with the same sharing: two paths meet in the result exactly when they meet in the
    original. -/
theorem C08_rebuild_same_sharing (h : Heap) (wf : h.WellFormed) (root r : GVal) (st : RbSt)
    (hb : rebuild h root = .ok (r, st)) (p q : Path) :
    followPath st.out r p = followPath st.out r q ↔ followPath h root p = followPath h root q := by
  obtain ⟨hi, _, hm⟩ := rebuild_spec wf hb
  rw [rebuild_faithful h wf root r st hb, rebuild_faithful h wf root r st hb]
  refine ⟨?_, congrArg _⟩
  -- `imageOf` is one-to-one on the memoized values, and every value on a path is memoized
  cases hp : followPath h root p with
  | none => exact fun e => (Option.map_eq_none_iff.mp e.symm).symm
  | some v =>
    intro e
    obtain ⟨w, hq, e⟩ := Option.map_eq_some_iff.mp e.symm
    exact hq ▸ congrArg some (imageOf_injective hi
      (followPath_memoized hi hm hp) (followPath_memoized hi hm hq) e.symm)

/-- The identity rebuild is idempotent: rebuilding its own result reproduces that result
    object for object (the result is in the traversal's own canonical order). -/
theorem C08_rebuild_idempotent (h : Heap) (wf : h.WellFormed) (root r : GVal) (st : RbSt)
    (hb : rebuild h root = .ok (r, st)) :
    ∃ st2, rebuild st.out r = .ok (r, st2) ∧ st2.out = st.out :=
  rebuild_stable h wf root r st hb

private def dia : Heap :=
  [ { kind := .dict, children := [(.key "k", .atom "1")] },
    { kind := .list, children := [(.index 0, .ref 0), (.index 1, .ref 0)] } ]

example : dia.WellFormed ∧ dia.PathsDistinct :=
  ⟨Heap.wellFormed_of_B dia (by decide), Heap.pathsDistinct_of_B dia (by decide)⟩

example : (iterate dia .basic (.ref 1)).length = 5 ∧ (iterate dia .memo (.ref 1)).length = 3 ∧
    allPathsTo dia (.ref 1) 0 = [[.index 0], [.index 1]] := ⟨rfl, rfl, rfl⟩

end Fiddle
