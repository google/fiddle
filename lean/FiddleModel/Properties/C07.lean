/-
C07 — copies are faithful and independent (copy, deepcopy, pickle, cast).

Model: `Model/Copy.lean`. Object identity is the heap index, so "shares no Buildable,
container or tag set" is a statement about indices: the deep copy of a heap of size `n` lives
entirely at indices ≥ n and its arguments (`children`) refer only to indices ≥ n, while the
original keeps its indices and contents. The theorems speak of `children` / `followPath` only:
`shiftObj` does not shift `defaults` (default objects belong to the callable), so a reference
in the `defaults` of a copy still points into the original. "Editing the copy never changes
what the original reports" is the frame theorem `C07_original_stable`. Tag sets are values
inside the objects of the model (the Python code must copy the `set` objects to get this; only
the oracle looks at the identity of the real tag sets, argument dicts and history lists). Single-Buildable edit histories after a copy are covered by the ArgStore model
(the correspondence of this property's flat stage).
-/
import FiddleModel.Lemmas.CopyL

namespace Fiddle

/-- The original is untouched by the copy: same objects at the same indices. -/
theorem C07_deepcopy_keeps_original (h : Heap) (i : Nat) (hi : i < h.length) :
    (h.deepcopy)[i]? = h[i]? := List.getElem?_append_left hi

/-- Faithful, object by object: the copy of object `i` has the same kind, callable, Buildable
    type, signature, tags and argument keys as object `i` ... -/
theorem C07_deepcopy_same_node (h : Heap) (i : Nat) (o : GObj) (ho : h[i]? = some o) :
    ∃ o', (h.deepcopy)[i + h.length]? = some o' ∧ o'.kind = o.kind ∧ o'.ty = o.ty ∧
      o'.bk = o.bk ∧ o'.sig = o.sig ∧ o'.tags = o.tags ∧
      o'.children.map (·.1) = o.children.map (·.1) :=
  ⟨_, deepcopy_copy_some ho, rfl, rfl, rfl, rfl, rfl, List.map_map ..⟩

/-- ... and path for path: following any path in the copy leads to the copy of what the same
    path leads to in the original. -/
theorem C07_deepcopy_faithful (h : Heap) (root : GVal) (p : Path) :
    followPath h.deepcopy (shiftVal h.length root) p =
      (followPath h root p).map (shiftVal h.length) := by
  refine followPath_sim (S := fun _ => True) ?_ (fun _ _ _ _ _ => trivial) p root trivial
  intro v pe _
  cases v with
  | atom t => rfl
  | ref i =>
    rw [shiftVal, followPath_single_ref, followPath_single_ref, deepcopy_copy]
    cases h[i]? with
    | none => rfl
    | some o => exact childAt_shift _ o pe

/-- Same sharing among the arguments: two paths meet in the copy exactly when they meet in the
    original. -/
theorem C07_deepcopy_same_sharing (h : Heap) (root : GVal) (p q : Path) :
    followPath h.deepcopy (shiftVal h.length root) p = followPath h.deepcopy (shiftVal h.length root) q ↔
      followPath h root p = followPath h root q := by
  rw [C07_deepcopy_faithful, C07_deepcopy_faithful]
  exact Option.map_inj_right (shiftVal_injective _)

/-- Independent: the arguments (`children`) of an object of the copy are objects of the copy. -/
theorem C07_deepcopy_disjoint (h : Heap) (i : Nat) (o' : GObj)
    (ho : (h.deepcopy)[i + h.length]? = some o') (c : PElem × GVal) (hc : c ∈ o'.children)
    (j : Nat) (hj : c.2 = .ref j) : h.length ≤ j := by
  rw [deepcopy_copy] at ho
  obtain ⟨o, _, rfl⟩ := Option.map_eq_some_iff.mp ho
  obtain ⟨⟨pe, v⟩, _, rfl⟩ := List.mem_map.mp hc
  cases v with
  | atom t => cases hj
  | ref k => cases hj; exact Nat.le_add_left _ _

/-- Editing a copy — any change whatsoever to objects allocated after the original — never
    changes what the original reports: every path from an original object gives the same
    answer. -/
theorem C07_original_stable (h h2 : Heap) (wf : h.WellFormed)
    (hag : ∀ i, i < h.length → h2[i]? = h[i]?) (i : Nat) (hi : i < h.length) (p : Path) :
    followPath h2 (.ref i) p = followPath h (.ref i) p :=
  followPath_agree wf hag p (.ref i) hi

/-- Shallow copies (`copy.copy`, `copy_with`, `cast`): one new top-level Buildable; the
    argument values themselves stay shared (same indices), tags and callable are kept, the
    Buildable type is the requested one for a cast. -/
theorem C07_shallow_copy (h : Heap) (i : Nat) (bk : Option String) (o : GObj) (ho : h[i]? = some o) :
    ∃ o', (h.shallowCopy i bk)[h.length]? = some o' ∧ o'.children = o.children ∧
      o'.tags = o.tags ∧ o'.ty = o.ty ∧ o'.sig = o.sig ∧ o'.bk = bk.getD o.bk ∧
      ∀ k, k < h.length → (h.shallowCopy i bk)[k]? = h[k]? :=
  ⟨_, shallowCopy_new bk ho, rfl, rfl, rfl, rfl, rfl, shallowCopy_orig h i bk⟩

/-- The copied object lies below `h.length`, the index of the new one: they are different
    objects, so `C07_original_stable` covers every later edit of the copy. -/
theorem C07_shallow_copy_is_new (h : Heap) (i : Nat) (o : GObj) (ho : h[i]? = some o) :
    i < h.length := (List.getElem?_eq_some_iff.mp ho).1

private def g : Heap :=
  [ { kind := .list, children := [(.index 0, .atom "1")] },
    { kind := .cfg, ty := "f", bk := "Config", children := [(.attr "a", .ref 0), (.attr "b", .ref 0)],
      tags := [(.name "a", [2])] } ]

example : g.WellFormed ∧
    (g.deepcopy)[3]?.map (·.children) = some [(.attr "a", .ref 2), (.attr "b", .ref 2)] ∧
    followPath g.deepcopy (.ref 3) [.attr "a", .index 0] = some (.atom "1") :=
  ⟨Heap.wellFormed_of_B g (by decide), rfl, rfl⟩

end Fiddle
