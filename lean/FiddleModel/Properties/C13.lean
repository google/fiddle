/-
C13 — the generated fiddler does what apply_diff does.

Model (`Model/Diff.lean`): `emit` turns a diff into the statements `fiddler_from_diff` writes
for one node (`del cfg.k`, `fdl.remove_tag`, `fdl.update_callable`, `cfg.k = v`,
`fdl.add_tag`) in the order `_cst_for_changes` writes them; `execAll` runs them with the
validation the real statements perform.
The correspondence run parses the *emitted Python source* back into these statements and runs
the model on them, with and without `old` and with the function and its parameter renamed;
variable naming modes and `new_shared_values` are seen by its oracle only, and nested targets
are outside the model.
-/
import FiddleModel.Lemmas.DiffMain
import FiddleModel.Lemmas.DiffOrder
import FiddleModel.Properties.C10

namespace Fiddle
open Fiddle.Diff

/-- For every list of changes, applied in the order `_cst_for_changes` emits them (`regroup`):
    where that succeeds on a configuration whose callable accepts its arguments (`ArgsOk`;
    without it `cfg.k = v` can fail where ModifyValue succeeds), the emitted fiddler succeeds with
    the same configuration. Not conversely: `cfg.k = v` also succeeds where ModifyValue finds no
    `k`. -/
theorem C13_fiddler_is_regrouped_apply (sg : Sigs) (chs : List Change) (c r : Flat)
    (hok : ArgsOk sg c) (h : applyAll sg c (regroup chs) = .ok r) :
    execAll sg c (emit chs) = .ok r :=
  (execAll_emit hok h).1

/-- Statement by statement, on an `ArgsOk` configuration: where a change succeeds, what is emitted
    for it succeeds with the same result. -/
theorem C13_statement_equals_change (sg : Sigs) (c r : Flat) (ch : Change) (hok : ArgsOk sg c)
    (h : apply1 sg c ch = .ok r) : exec1 sg c (emit1 ch) = .ok r :=
  (exec1_emit1 hok h).1

/-- For every change list in which no argument is both modified and set (true of every
    diff: a target has one value operation), in whatever order its changes come: whenever
    `apply_diff` (five phases, in the order read from the source) succeeds on an `ArgsOk`
    configuration, the generated fiddler succeeds with the same configuration (by moving
    commuting operations past each other, `Diff.regroup_refines` in `Lemmas/DiffOrder.lean`). -/
theorem C13_fiddler_equals_apply_diff (sg : Sigs) (chs : List Change)
    (hMS : ∀ k v k' v', Change.modifyValue k v ∈ chs → Change.setValue k' v' ∈ chs → k ≠ k')
    (c r : Flat) (hok : ArgsOk sg c)
    (h : applyPhases sg Tables.applyOrder chs c = .ok r) :
    execAll sg c (emit chs) = .ok r := by
  rw [C10_apply_order_obligation, applyPhases_eq_applyAll] at h
  exact C13_fiddler_is_regrouped_apply sg chs c r hok (regroup_refines hMS c r h)

/-- The case of the model's own diff `flatDiff old new`: no argument is both modified and set there. -/
theorem C13_fiddler_equals_apply_diff_model_order (sg : Sigs) (old new c r : Flat) (hok : ArgsOk sg c)
    (h : applyPhases sg Tables.applyOrder (flatDiff old new) c = .ok r) :
    execAll sg c (emit (flatDiff old new)) = .ok r :=
  C13_fiddler_equals_apply_diff sg _ (flatDiff_modify_ne_set old new) c r hok h

/-- With C10: for `Valid` nodes the fiddler emitted for `flatDiff old new` runs on `old` and ends
    where `C10_apply_build_diff` does (the callable, every argument, every tag set of `new`). -/
theorem C13_fiddler_of_build_diff (sg : Sigs) (old new : Flat) (ho : old.Valid sg)
    (hn : new.Valid sg) :
    ∃ r, execAll sg old (emit (flatDiff old new)) = .ok r ∧
      r.fn = new.fn ∧ (∀ k, r.args.get? k = new.args.get? k) ∧
      (∀ n t, t ∈ r.tagsOf n ↔ t ∈ new.tagsOf n) := by
  obtain ⟨r, hr, h⟩ := C10_apply_build_diff sg old new ho hn
  exact ⟨r, C13_fiddler_equals_apply_diff_model_order sg old new old r ho.argsOk hr, h⟩

private def sgEx : Sigs := fun f => if f = "f" then ["a", "c"] else if f = "g" then ["b", "c"] else []
private def oldEx : Flat := { fn := "f", args := [(.name "a", .v 1), (.name "c", .v 3)], tags := [(.name "a", [7])] }
private def newEx : Flat := { fn := "g", args := [(.name "c", .v 4), (.name "b", .v 2)], tags := [(.name "b", [8])] }

example : emit (flatDiff oldEx newEx) =
    [.delAttr "a", .removeTag "a" 7, .updateCallable "g", .assign "c" (.v 4), .assign "b" (.v 2),
     .addTag "b" 8] := by rfl

end Fiddle
