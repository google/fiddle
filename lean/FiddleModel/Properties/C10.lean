/-
C10 — applying build_diff(old, new) to old yields new.

Model (`Model/Diff.lean`): one node — a callable, named arguments and tags — with the
validation the real `DiffOperation.apply` goes through (`__setattr__`, `add_tag` and
`update_callable` check argument names against the node's *current* callable, `sg f` = the
names callable `f` accepts; `__delattr__` wants the argument set; of `remove_tag` only the
test that the tag is there is modelled). `flatDiff` lists the changes `build_diff` makes for
such a pair, in phase order (the code lists them in another order; the correspondence run
compares the two as sets); `applyPhases` is `_apply_changes`: one pass per operation type, in
the order of the tuple in the source — which is read from /repo into `Tables.applyOrder` on
every run.

Not modelled (correspondence run and its oracle only): alignment of nested structures,
moved/shared sub-configurations and `new_shared_values`, positional arguments (a known
finding: build_diff rejects them), in-place identity of the root.
-/
import FiddleModel.Lemmas.DiffMain
import FiddleModel.Generated.Tables

namespace Fiddle
open Fiddle.Diff

/-- The phase order of `_apply_changes` in the current source is the one `flat_roundtrip` is about. -/
theorem C10_apply_order_obligation :
    Tables.applyOrder = ["DeleteValue", "RemoveTag", "ModifyValue", "SetValue", "AddTag"] :=
  rfl

/-- For `Valid` nodes `apply_diff(build_diff(old, new), old)` succeeds with the callable of `new`,
    its value for every argument key (set or unset) and its tag set for every argument; not
    `r = new`: in the example below an emptied tag entry stays. -/
theorem C10_apply_build_diff (sg : Sigs) (old new : Flat) (ho : old.Valid sg) (hn : new.Valid sg) :
    ∃ r, applyPhases sg Tables.applyOrder (flatDiff old new) old = .ok r ∧
      r.fn = new.fn ∧ (∀ k, r.args.get? k = new.args.get? k) ∧
      (∀ n t, t ∈ r.tagsOf n ↔ t ∈ new.tagsOf n) :=
  C10_apply_order_obligation ▸ flat_roundtrip sg old new ho hn

theorem C10_diff_of_copy_is_empty (c : Flat) (hn : c.args.NodupKeys) (ht : c.tags.NodupKeys) :
    flatDiff c c = [] := by
  have hd : dels c c = [] :=
    List.filterMap_eq_nil_iff.mpr fun k hk => if_pos (Dict.contains_iff_mem_keys.mpr hk)
  have hm : mods c c = [] := List.filterMap_eq_nil_iff.mpr fun kv hkv => by
    rw [Dict.get?_of_mem hn hkv]
    cases nameOf kv.1 <;> simp
  have hs : sets c c = [] := List.filterMap_eq_nil_iff.mpr fun kv hkv => by
    cases nameOf kv.1 <;>
      simp [Dict.contains_iff_mem_keys.mpr (Dict.mem_keys_of_mem hkv)]
  have htp : tagPairs c c = [] :=
    List.eq_nil_iff_forall_not_mem.mpr fun p hp =>
      ((mem_tagPairs ht).mp hp).elim fun h1 h2 => h2 h1
  simp [flatDiff, hd, hm, hs, htp, fnChange]

theorem C10_empty_diff_is_identity (sg : Sigs) (order : List String) (c : Flat) :
    applyPhases sg order [] c = .ok c := by
  induction order with
  | nil => rfl
  | cons ty order ih => simp [applyPhases, applyAll, ih]

private def sgEx : Sigs := fun f => if f = "f" then ["a", "c"] else if f = "g" then ["b", "c"] else []
private def oldEx : Flat := { fn := "f", args := [(.name "a", .v 1), (.name "c", .v 3)], tags := [(.name "a", [7])] }
private def newEx : Flat := { fn := "g", args := [(.name "c", .v 4), (.name "b", .v 2)], tags := [(.name "b", [8])] }

example : oldEx.Valid sgEx ∧ newEx.Valid sgEx :=
  ⟨⟨by decide, by unfold Dict.NodupKeys; decide, by decide, by unfold Dict.NodupKeys; decide⟩,
   ⟨by decide, by unfold Dict.NodupKeys; decide, by decide, by unfold Dict.NodupKeys; decide⟩⟩

example : flatDiff oldEx newEx =
    [.deleteValue "a", .removeTag "a" 7, .modifyFn "g", .modifyValue "c" (.v 4), .setValue "b" (.v 2),
     .addTag "b" 8] := by rfl

example : (applyPhases sgEx Tables.applyOrder (flatDiff oldEx newEx) oldEx).toOption =
    some { fn := "g", args := [(.name "c", .v 4), (.name "b", .v 2)],
           tags := [(.name "a", []), (.name "b", [8])] } := by
  rw [applyPhases_eq_applyAll, C10_apply_order_obligation, phased_flatDiff]; rfl

/-- On the example pair: changing the callable before deleting what the new one rejects fails; so
    does setting what only the new one accepts before changing it. -/
theorem C10_order_matters :
    (applyPhases sgEx ["ModifyValue", "DeleteValue", "RemoveTag", "SetValue", "AddTag"]
      (flatDiff oldEx newEx) oldEx).toOption = none ∧
    (applyPhases sgEx ["DeleteValue", "RemoveTag", "SetValue", "ModifyValue", "AddTag"]
      (flatDiff oldEx newEx) oldEx).toOption = none := by decide

end Fiddle
