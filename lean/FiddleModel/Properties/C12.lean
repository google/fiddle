/-
C12 — generated Python code reproduces the configuration.

The correspondence run parses the module text the real generators emit (plain `fdl.Config`
generator and auto_config generator, all settings of the sub-fixture, complexity and history
options) into the statement language of `Model/Codegen.lean`, executes it with `CProg.run` and
compares the resulting heap with the input configuration — so naming, inlining and sub-fixture
extraction are exercised on the real code, while the theorems are about the execution semantics
and about one generator of the model:
  * `straightLine` (every object its own variable: the complexity-threshold-0 shape, except that
    the real generator never moves the root into a variable) followed by execution reproduces
    the configuration *exactly*: same objects at the same indices, hence same callables,
    arguments, tags and sharing;
  * evaluating an expression only allocates (never changes an existing object), a constructor
    expression always yields a new object, a variable always yields the object it was bound to
    — which is why sharing in the emitted text means sharing in the result and nothing else.
Not proved (`_partial`): that inlining single-use variables (higher thresholds) and moving
sub-graphs into sub-fixtures preserve the result; value expressions for leaf types (enum,
float, complex, bytes, …) are outside the model (the oracle evaluates them on the real code).
-/
import FiddleModel.Lemmas.CodegenL
import FiddleModel.Lemmas.Traverse
import FiddleModel.Properties.C09

namespace Fiddle

/-- Round trip: executing the straight-line program generated for an acyclic configuration
    encoded without default objects (`hd`) rebuilds it exactly: every object at its own index,
    hence the same callables, arguments, tags and sharing. -/
theorem C12_straight_line_roundtrip_partial (h : Heap) (wf : h.WellFormed)
    (hd : ∀ o ∈ h, o.defaults = []) (root : GVal) (hr : ∀ j, root = .ref j → j < h.length) :
    (straightLine h root).run = some (root, h) :=
  straightLine_run h wf hd root hr

/-- The same for the straight-line program over the objects reachable from the root only,
    children before parents (the memoized post-order table `rebuild` computes): for EVERY acyclic
    configuration (encoded as above) that program exists, executes, and what it builds is the
    input path for path (what that means: `C09_dump_is_faithful`). -/
theorem C12_reachable_program_roundtrip (h : Heap) (wf : h.WellFormed) (hd : ∀ o ∈ h, o.defaults = [])
    (root : GVal) (hr : ∀ i, root = .ref i → i < h.length) :
    ∃ r st, rebuild h root = .ok (r, st) ∧ (straightLine st.out r).run = some (r, st.out) ∧
      ∀ p, followPath st.out r p = (followPath h root p).map (imageOf st.memo) :=
  C09_roundtrip_total h wf hd root hr

/-- Executing any expression never touches an existing object. -/
theorem C12_execution_only_allocates (e : CExpr) (env : CEnv) (h : Heap) (v : GVal) (h' : Heap)
    (he : e.eval env h = some (v, h')) (i : Nat) (hi : i < h.length) : h'[i]? = h[i]? := by
  obtain ⟨t, rfl⟩ := CExpr.eval_prefix he
  exact List.getElem?_append_left hi

/-- A constructor expression yields a new object, different from every existing one ... -/
theorem C12_constructor_is_fresh (kind : NKind) (ty bk : String) (sig : Sig)
    (ch : List (PElem × CExpr)) (tags : List (Key × List Nat)) (env : CEnv) (h : Heap) (v : GVal)
    (h' : Heap) (he : (CExpr.node kind ty bk sig ch tags).eval env h = some (v, h')) :
    ∃ n, v = .ref n ∧ h.length ≤ n ∧ h'.length = n + 1 ∧
      ∃ o, h'[n]? = some o ∧ o.kind = kind ∧ o.ty = ty ∧ o.bk = bk ∧ o.tags = tags ∧
        o.children.map (·.1) = ch.map (·.1) := by
  obtain ⟨_, h1, hc, rfl, rfl⟩ := CExpr.eval_node_ok he
  exact ⟨h1.length, rfl, (CExpr.evalCh_prefix hc).length_le, List.length_append,
    _, List.getElem?_concat_length, rfl, rfl, rfl, rfl, CExpr.evalCh_keys hc⟩

/-- ... while a variable yields the very object it was bound to, every time, and allocates
    nothing: two occurrences of a variable are two references to one object. -/
theorem C12_variable_shares (x : Nat) (env : CEnv) (h : Heap) (v : GVal) (hx : env.lookup x = some v) :
    (CExpr.var x).eval env h = some (v, h) := by
  simp [CExpr.eval, hx]

private def g : Heap :=
  [ { kind := .cfg, ty := "f", bk := "Config", children := [(.attr "x", .atom "1")], tags := [(.name "x", [2])] },
    { kind := .list, children := [(.index 0, .ref 0), (.index 1, .ref 0)] },
    { kind := .cfg, ty := "g", bk := "Partial", children := [(.attr "a", .ref 1), (.attr "b", .ref 0)] } ]

example : g.WellFormed := Heap.wellFormed_of_B g (by decide)
example : ((straightLine g (.ref 2)).run).map (fun r => (r.1, r.2.length)) = some (.ref 2, 3) := rfl

end Fiddle
