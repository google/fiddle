/-
C19 — threads working on different configurations do not interfere.

Model: `Model/Threads.lean`: per-thread build guard and tracking switch, one shared atomic
sequence counter, schedules = arbitrary interleavings at operation granularity. Proved for
every schedule, every number of threads and every starting state.

What ties the model to the code:
  * `C19_state_is_thread_local`: `_BuildGuardState` and `_TrackingState` derive from
    `threading.local` in the current source (table regenerated from /repo on every run); that the
    module-level objects holding the guard and the switch are instances of them is not in the table;
  * the correspondence run drives real threads under a line-level scheduler and compares each
    thread's observations with the model's `outputsOf` for the same programs.
Not in this model: the caches shared between threads (`signatures._signature_cache`; `Sys` is
the counter and the per-thread states) and pre-emption *inside* an operation, e.g. a non-atomic
counter; the atomicity of `next(itertools.count)` under the GIL is assumed. The scheduler-driven
run is what explores those; it supports the tie, it does not prove it.
-/
import FiddleModel.Lemmas.ThreadsL
import FiddleModel.Generated.Tables

namespace Fiddle

/-- Table obligation: the classes of the guard and of the tracking switch are among those deriving
    from `threading.local` (which objects hold the two pieces of state is not in the table). -/
theorem C19_state_is_thread_local :
    "fiddle/_src/building.py:_BuildGuardState" ∈ Tables.threadLocalState ∧
    "fiddle/_src/history.py:_TrackingState" ∈ Tables.threadLocalState := by
  -- the literals are found as they stand; `decide` compares strings byte by byte: slow to check
  simp only [Tables.threadLocalState, List.mem_cons, true_or, or_true, and_self]

/-- Each thread observes what it would observe running alone, the values of sequence numbers
    erased (`TOut.erase`), under every interleaving, and ends in the same local state. -/
theorem C19_noninterference (t : Nat) (sched : List (Nat × TOp)) (s : Sys) :
    (outputsOf t (s.run sched).2).map TOut.erase =
        (outputsOf t (s.run (programOf t sched)).2).map TOut.erase ∧
      (s.run sched).1.threads t = (s.run (programOf t sched)).1.threads t :=
  Sys.run_noninterference sched rfl

/-- The nested-build guard acts per thread: whether thread `t`'s `fdl.build` is rejected
    depends only on whether `t` itself is inside a build — other threads' builds never make
    it fail, and its own nested build is always rejected. -/
theorem C19_guard_per_thread (s : Sys) (t : Nat) :
    (s.step t .enterBuild).2 = .nestedBuildRejected ↔ (s.threads t).inBuild = true := by
  cases h : (s.threads t).inBuild <;> simp [Sys.step, h]

/-- History suspension acts per thread: an edit is logged iff the editing thread's own switch
    is on. -/
theorem C19_tracking_per_thread (s : Sys) (t : Nat) (k : String) :
    (∃ n, (s.step t (.log k)).2 = .logged k n) ↔ (s.threads t).tracking = true := by
  cases h : (s.threads t).tracking <;> simp [Sys.step, h]

/-- Sequence numbers are unique across all threads ... -/
theorem C19_sequence_unique (sched : List (Nat × TOp)) (s : Sys) :
    (allSeqs (s.run sched).2).Nodup := by
  obtain ⟨n, -, e⟩ := Sys.run_seqs sched s
  exact e ▸ List.nodup_range'

/-- ... and strictly increasing within each thread. -/
theorem C19_sequence_increasing_per_thread (t : Nat) (sched : List (Nat × TOp)) (s : Sys) :
    (seqsOf (outputsOf t (s.run sched).2)).Pairwise (· < ·) := by
  obtain ⟨n, -, e⟩ := Sys.run_seqs sched s
  exact (e ▸ List.pairwise_lt_range').sublist (seqsOf_thread_sublist t _)

/-- `suspend` followed at once by `resume` puts the thread's state back as it was, whatever is
    already saved (stack discipline); a block with operations in between is not what is stated. -/
theorem C19_suspend_resume_restores (s : Sys) (t : Nat) :
    ((s.step t .suspend).1.step t .resume).1.threads t = s.threads t := by
  simp only [Sys.step, setThread_same]

/-! ## Non-vacuity: two threads, one building, one editing under suspension -/

private def schedEx : List (Nat × TOp) :=
  [(0, .enterBuild), (1, .log "q"), (1, .suspend), (0, .enterBuild), (1, .log "r"),
   (1, .enterBuild), (1, .resume), (0, .exitBuild), (1, .log "q"), (1, .exitBuild)]

example : outputsOf 0 (({} : Sys).run schedEx).2 = [.ok, .nestedBuildRejected, .ok] ∧
    outputsOf 1 (({} : Sys).run schedEx).2 = [.logged "q" 0, .ok, .notLogged, .ok, .ok, .logged "q" 1, .ok] :=
  ⟨by rfl, by rfl⟩

end Fiddle
