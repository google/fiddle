/-
C18 — printed paths are valid override paths; flag directives apply in order.

Two models. The directive queue of `FiddleFlag` (`Model/Flags.lean`, over an abstract configuration
type with total semantics: a directive that fails to apply is outside it): what a read of the flag
applies, in which order, and that the first directive must be a base configuration. The path
grammar (`Model/Paths.lean`): within its scope (`Elem.ok`: word attribute names, quote-free string
keys of printable ASCII and `\\ \n \r \t`, natural-number keys) the printed text of a path parses
back to the same steps, and the assignment made of an `=`-free path splits after the path.
-/
import FiddleModel.Model.Flags
import FiddleModel.Lemmas.PathsL
import FiddleModel.Generated.Tables

namespace Fiddle

variable {C : Type}

theorem foldDirectives_append (sem : Semantics C) (l1 l2 : List Directive) (v : Option C) :
    foldDirectives sem v (l1 ++ l2) = foldDirectives sem (foldDirectives sem v l1) l2 := by
  induction l1 generalizing v with
  | nil => rfl
  | cons d r ih => cases d <;> exact ih _

theorem FlagSt.apply1_ok {sem : Semantics C} {st st1 : FlagSt C} {d : Directive}
    (h : st.apply1 sem d = .ok st1) :
    st1.applied = st.applied ++ [d] ∧ st1.value = foldDirectives sem st.value [d] := by
  revert h
  fun_cases FlagSt.apply1 sem st d
  case case1 | case2 => nofun  -- rejected
  all_goals rintro ⟨⟩; exact ⟨rfl, rfl⟩

/-- Draining a queue applies exactly its directives, in order, each once, and the resulting
    value is the fold of the directives over the value so far. -/
theorem drain_spec (sem : Semantics C) (ds : List Directive) :
    ∀ (st st' : FlagSt C), FlagSt.drain sem st ds = .ok st' →
      st'.applied = st.applied ++ ds ∧ st'.value = foldDirectives sem st.value ds ∧
      st'.remaining = [] := by
  intro st st' h
  fun_induction FlagSt.drain sem st ds
  case case1 => cases h; exact ⟨(List.append_nil _).symm, rfl, rfl⟩
  case case2 => cases h
  case case3 st d r st1 h1 ih =>
    obtain ⟨e1, e2⟩ := FlagSt.apply1_ok h1
    obtain ⟨i1, i2, i3⟩ := ih h
    exact ⟨by rw [i1, e1, List.append_assoc]; rfl,
      by rw [i2, e2]; exact (foldDirectives_append sem [d] r _).symm, i3⟩

/-- **In order, exactly once**: after `parse(args₁); value; parse(args₂); value` the applied log is
    the command line and the value the fold over it, as `drain_spec` gives for
    `parse(args₁ ++ args₂); value`. -/
theorem C18_in_order (sem : Semantics C) (a1 a2 : List Directive) (s1 s2 : FlagSt C)
    (h1 : (({} : FlagSt C).parse a1).getValue sem = .ok s1)
    (h2 : (s1.parse a2).getValue sem = .ok s2) :
    s2.applied = a1 ++ a2 ∧ s2.value = foldDirectives sem none (a1 ++ a2) := by
  obtain ⟨e1, e2, e3⟩ := drain_spec sem a1 _ s1 h1
  obtain ⟨f1, f2, -⟩ := drain_spec sem (s1.remaining ++ a2) _ s2 h2
  rw [FlagSt.parse, e3] at f1 f2
  exact ⟨by rw [f1, e1]; rfl, by rw [f2, e2]; exact (foldDirectives_append sem a1 a2 none).symm⟩

/-- Two (hence any number of) `parse` calls before one `value`: the queue is the concatenation. -/
theorem C18_parse_accumulates (st : FlagSt C) (a1 a2 : List Directive) :
    ((st.parse a1).parse a2).remaining = st.remaining ++ a1 ++ a2 := rfl

/-- The first directive must provide the base configuration: a command line that starts with a
    `set` override is rejected (a leading fiddler fails the same test in `apply1`). -/
theorem C18_first_must_be_config (sem : Semantics C) (a : String) (r : List Directive) :
    (({} : FlagSt C).parse (.set a :: r)).getValue sem = .error .firstMustBeConfig := rfl

/-- Non-vacuity: a command line with a base config, two overrides and a fiddler drains. -/
example : ∃ s : FlagSt (List String),
    (({} : FlagSt (List String)).parse [.config "b", .set "x=1", .fiddler "f", .set "y=2"]).getValue
      ⟨fun e => [e], fun c a => c ++ [a], fun c e => c ++ [e]⟩ = .ok s
      ∧ s.value = some ["b", "x=1", "f", "y=2"] := by
  refine ⟨_, rfl, rfl⟩

open Paths

/-- Within the property's scope `daglish.path_str` prints every path (the model never answers
    `unsupported` there). The theorems below assume `printed p = .ok t`, which follows from this by
    unfolding `printed` but is not what is stated. -/
theorem C18_printable (p : List Elem) (hok : ∀ e ∈ p, e.ok) : ∃ t, pathStr p = .ok t :=
  ⟨_, pathStr_eq hok⟩

/-- **Printed paths resolve**: the text `printing._path_str` prints for a non-empty path
    (attribute names that are words, quote-free string keys, non-negative int keys and list
    indices) is accepted by the override parser `absl_flags.utils.parse_path`, and parses to the
    very same sequence of steps (an `Index` comes back as the `Key` of the same int, which
    subscripts a list the same way). -/
theorem C18_printed_path_parses_back (p : List Elem) (t : List Char) (hne : p ≠ [])
    (hok : ∀ e ∈ p, e.ok) (h : printed p = .ok t) :
    parsePath (reDot t) = .ok (p.map Elem.toParsed) := by
  cases (printed_eq hok).symm.trans h
  rw [reDot_printed hne hok]
  exact parseFuel_rendered hok (Nat.le_refl _)

/-- **A printed path names one position**: two non-empty paths within scope that print the same
    text are the same sequence of steps (`Index n` and `Key n` print alike and count as one) - no
    leaf can be listed under a text that resolves to another. -/
theorem C18_printed_path_injective (p q : List Elem) (t : List Char) (hp : p ≠ []) (hq : q ≠ [])
    (okp : ∀ e ∈ p, e.ok) (okq : ∀ e ∈ q, e.ok) (h1 : printed p = .ok t) (h2 : printed q = .ok t) :
    p.map Elem.toParsed = q.map Elem.toParsed :=
  Res.ok.inj ((C18_printed_path_parses_back p t hp okp h1).symm.trans
    (C18_printed_path_parses_back q t hq okq h2))

/-- **The override is split where it was joined**: for a printed path whose string keys are
    `=`-free, `set_value`'s `assignment.split('=', 1)` of `path=value` returns exactly the
    printed path and the value text, whatever the value text contains (further `=` included). -/
theorem C18_assignment_splits (p : List Elem) (t v : List Char) (hok : ∀ e ∈ p, e.ok)
    (hne : ∀ e ∈ p, e.noEq) (h : printed p = .ok t) : splitAssign (t ++ '=' :: v) = some (t, v) := by
  cases (printed_eq hok).symm.trans h
  have hfree : '=' ∉ p.flatMap render := fun hx => by
    obtain ⟨e, he, hx⟩ := List.mem_flatMap.mp hx
    exact render_no_eq (hok e he) (hne e he) hx
  refine splitAssign_append v fun hx => hfree ?_
  split at hx
  · exact List.mem_of_mem_tail hx
  · exact hx

/-- Non-vacuity: a path with every kind of element is within scope and prints:
    `p[10]['k 1\\x'][0].q_1`. -/
example :
    let p : List Elem := [.attr ['p'], .index 10, .key (.str ['k', ' ', '1', '\\', 'x']), .key (.int 0),
                          .attr ['q', '_', '1']]
    (∀ e ∈ p, e.ok) ∧ (∀ e ∈ p, e.noEq) ∧
      printed p = .ok ['p', '[', '1', '0', ']', '[', '\'', 'k', ' ', '1', '\\', '\\', 'x', '\'', ']',
                       '[', '0', ']', '.', 'q', '_', '1'] := by
  intro p
  have h : ∀ e ∈ p, e.ok ∧ e.noEq := by
    intro e he
    simp only [p, List.mem_cons, List.not_mem_nil, or_false] at he
    rcases he with rfl | rfl | rfl | rfl | rfl <;> unfold Elem.ok Elem.noEq keyChar <;> decide
  exact ⟨fun e he => (h e he).1, fun e he => (h e he).2, by with_unfolding_all rfl⟩

/-- Why the property restricts keys: a `'` inside a single-quoted key ends `'[^']*'` early and the
    text is rejected (`repr` writes such a text, the quote escaped, for a key with both quotes). -/
example : parsePath ['[', '\'', 'i', 't', '\'', 's', '\'', ']'] = .error := rfl

/-- Leading zeros: `[007]` is rejected (`literal_eval` raises), `[00]` is index 0. -/
example : parsePath ['[', '0', '0', '7', ']'] = .error ∧
    parsePath ['[', '0', '0', ']'] = .ok [.key (.int 0)] := ⟨rfl, rfl⟩

/-- Table obligation (regenerated from the source on every run): the two alternatives listed in
    `daglish_extensions._PATH_PART` are the regular expressions `scan` was written from, and the
    call by which `set_value` cuts `path=value` is `split('=', 1)`, which `splitAssign` models. The
    statement compares generated string tables with literals: the table holds the alternatives
    only (not the wrapper they are formatted into, nor flags), and `parsePath` does not occur. -/
theorem C18_grammar_source_obligation :
    Tables.pathPartAlternatives =
      ["\\.(?P<attr_name>[\\w_]+)", "\\[(?P<key>\\d+|'[^']*'|\\\"[^\\\"]*\\\")\\]"] ∧
    Tables.setValueSplit = ["split", "=", "1"] := ⟨rfl, rfl⟩

end Fiddle
