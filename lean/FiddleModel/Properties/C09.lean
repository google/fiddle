/-
C09 — JSON serialization is lossless or loud, and policy-gated.

Three small models: the latin-1 codec `dump_json` uses for `bytes` (`Model/Serialize.lean`), the
policy gate of `load_json` (`Doc.resolve`, same file), and the document itself: the `objects` table
is `rebuild`'s result heap (`Model/Rebuild.lean`) and loading it is running `straightLine` of it.
-/
import FiddleModel.Model.Serialize
import FiddleModel.Lemmas.RebuildL
import FiddleModel.Lemmas.CodegenL
import FiddleModel.Lemmas.RebuildStable

namespace Fiddle

theorem latin1_byte (b : UInt8) : (Char.ofNat b.toNat).toNat = b.toNat := by
  have hv : b.toNat.isValidChar := Or.inl (Nat.lt_trans b.toNat_lt (by decide))
  simp [Char.ofNat, hv, Char.ofNatAux, Char.toNat]

/-- **Bytes survive the codec**: for EVERY byte string, escape-like sequences included,
    encoding the decoded text gives the bytes back. -/
theorem C09_bytes_roundtrip (bs : List UInt8) : encodeLatin1 (decodeLatin1 bs) = some bs := by
  induction bs with
  | nil => rfl
  | cons b r ih =>
    unfold decodeLatin1 at ih ⊢
    rw [List.map_cons, encodeLatin1, latin1_byte, if_pos b.toNat_lt, ih, Option.map_some,
      UInt8.ofNat_toNat]

/-- **Policy gate**: every symbol resolved while loading ANY document (not only outputs of
    `dump_json`) was approved by `allows_import` and its value by `allows_value`. -/
theorem C09_policy_gated (p : Policy) :
    (∀ (d : Doc) acc res, d.resolve p acc = .ok res →
      (∀ s ∈ acc, p.allowsImport s.1 s.2 = true ∧ p.allowsValue s.1 s.2 = true) →
      ∀ s ∈ res, p.allowsImport s.1 s.2 = true ∧ p.allowsValue s.1 s.2 = true) := by
  -- the statement about a run `r` from `acc`, of a document or of a list of documents alike
  let M (acc : List (String × String)) (r : Except LoadErr (List (String × String))) : Prop :=
    ∀ res, r = .ok res →
      (∀ s ∈ acc, p.allowsImport s.1 s.2 = true ∧ p.allowsValue s.1 s.2 = true) →
      ∀ s ∈ res, p.allowsImport s.1 s.2 = true ∧ p.allowsValue s.1 s.2 = true
  have ok acc : M acc (.ok acc) := fun _ h hacc => Except.ok.inj h ▸ hacc
  apply Doc.resolve.induct_unfolding p (fun _ => M) (fun _ => M)
  case case1 => exact fun _ => ok  -- leaf
  case case2 =>  -- approved reference
    rintro m n acc hi hv _ ⟨⟩ hacc
    exact List.forall_mem_append.mpr ⟨hacc, List.forall_mem_singleton.mpr ⟨hi, hv⟩⟩
  case case5 => exact fun _ _ ih => ih  -- node
  case case6 => exact ok  -- nil
  case case8 =>  -- cons
    exact fun d r acc acc' h1 ihd ihr res h hacc => ihr res h (ihd acc' h1 hacc)
  all_goals  -- rejected
    intros
    exact nofun

/-- Reaching a reference to a symbol `allows_import` denies raises the policy error. -/
theorem C09_denied_raises (p : Policy) (m n : String) (acc : List (String × String))
    (h : p.allowsImport m n = false) : (Doc.pyref m n).resolve p acc = .error (.policy m n) := by
  simp [Doc.resolve, h]

example : encodeLatin1 (decodeLatin1 [92, 117, 48, 48, 52, 49]) = some [92, 117, 48, 48, 52, 49] :=
  C09_bytes_roundtrip _      -- b'\\u0041'

/-! ## The structure of the document

The `objects` table `dump_json` writes is `rebuild`'s result heap (see `Model/Rebuild.lean`).
`load_json` creates the objects entry by entry, resolving `{"type": "ref", "key": …}` to the
objects already created: `straightLine … .run`. -/

/-- Loading what was dumped from an acyclic configuration (`wf`) without default objects (`hd`)
    recreates the dumped table exactly ... -/
theorem C09_load_of_dump (h : Heap) (wf : h.WellFormed) (hd : ∀ o ∈ h, o.defaults = [])
    (root r : GVal) (st : RbSt) (hb : rebuild h root = .ok (r, st)) :
    (straightLine st.out r).run = some (r, st.out) :=
  have hi := (rebuild_spec wf hb).1
  straightLine_run st.out (rebuilt_wellFormed hi) (rebuilt_defaults hi hd) r
    (rebuild_root_lt wf hb)

/-- ... and that table is, path for path, the input configuration: a path leads to the copy of
    what it leads to in the input, a leaf to itself (what a copy carries is
    `C08_rebuild_same_types`, that copies meet only where originals do `C08_rebuild_same_sharing`). -/
theorem C09_dump_is_faithful (h : Heap) (wf : h.WellFormed) (root r : GVal) (st : RbSt)
    (hb : rebuild h root = .ok (r, st)) (p : Path) :
    followPath st.out r p = (followPath h root p).map (imageOf st.memo) :=
  rebuild_faithful h wf root r st hb p

/-- The round trip exists for EVERY acyclic configuration encoded without default objects (`hd`;
    no "if dump_json returned" premise): the table is produced, loading it recreates it exactly,
    and it is the input path for path. (Python's recursion limit, which stops the real `dump_json` /
    `load_json` on chains some 200 deep, is not modelled.) -/
theorem C09_roundtrip_total (h : Heap) (wf : h.WellFormed) (hd : ∀ o ∈ h, o.defaults = [])
    (root : GVal) (hr : ∀ i, root = .ref i → i < h.length) :
    ∃ r st, rebuild h root = .ok (r, st) ∧ (straightLine st.out r).run = some (r, st.out) ∧
      ∀ p, followPath st.out r p = (followPath h root p).map (imageOf st.memo) := by
  obtain ⟨r, st, hb⟩ := rebuild_total h wf root hr
  exact ⟨r, st, hb, C09_load_of_dump h wf hd root r st hb, C09_dump_is_faithful h wf root r st hb⟩

/-- "Serializing the reconstruction again gives the same document": `load_json` recreated the
    table exactly (`C09_load_of_dump`), and dumping that table again (a second `rebuild`, now
    over the table itself) writes the very same table with the same root, entry for entry. -/
theorem C09_redump_is_same_document (h : Heap) (wf : h.WellFormed) (root r : GVal) (st : RbSt)
    (hb : rebuild h root = .ok (r, st)) :
    ∃ st2, rebuild st.out r = .ok (r, st2) ∧ st2.out = st.out :=
  rebuild_stable h wf root r st hb

/-! Non-vacuity of the round trip: a configuration with a shared node and a list. -/

private def gdoc : Heap :=
  [ { kind := .cfg, ty := "f", bk := "Config", children := [(.attr "x", .atom "1")], tags := [(.name "x", [2])] },
    { kind := .list, children := [(.index 0, .ref 0), (.index 1, .ref 0)] },
    { kind := .cfg, ty := "g", bk := "Partial", children := [(.attr "a", .ref 1), (.attr "b", .ref 0)] } ]

example : ∃ r st st2, rebuild gdoc (.ref 2) = .ok (r, st) ∧
    (straightLine st.out r).run = some (r, st.out) ∧
    rebuild st.out r = .ok (r, st2) ∧ st2.out = st.out := by
  have wf : gdoc.WellFormed := Heap.wellFormed_of_B gdoc (by decide)
  obtain ⟨r, st, hb, hload, _⟩ := C09_roundtrip_total gdoc wf (by decide) (.ref 2)
    fun _ h => GVal.ref.inj h ▸ Nat.le.refl
  obtain ⟨st2, h⟩ := C09_redump_is_same_document gdoc wf (.ref 2) r st hb
  exact ⟨r, st, st2, hb, hload, h⟩

end Fiddle
