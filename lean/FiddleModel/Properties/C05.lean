/-
C05 — a failing callable surfaces faithfully and leaves no residue.

Stated over `Model/Errors.lean`: the decoration of the escaping exception (`decorate`) and the
nested-build guard as a state machine (`inBuild`, `runBuilds`). No theorem speaks of the failing
build itself: that the path in the message leads to the failing Buildable, that no callable runs
after the failing one, that the configuration is unmodified.
-/
import FiddleModel.Model.Graph
import FiddleModel.Model.Errors

namespace Fiddle

/-- **Faithful surfacing**, in all branches of the decoration logic (proxy created, proxy
    creation failed, diagnostic formatting failed, not an `Exception`): the escaping exception
    is an instance of the original class and its message begins with the original message. -/
theorem C05_instance_and_prefix (e : Exc) (hz : Hazards) (ctx : String) :
    (decorate e hz ctx).cls.isSubclassOf e.cls = true ∧
    e.msg.toList <+: (decorate e hz ctx).msg.toList := by
  fun_cases decorate e hz ctx <;> simp [Cls.isSubclassOf, String.toList_append]

/-- The escaping exception is marked `decorated` exactly when none of the three hazards occurred
    (a statement about the flag, not about `ctx` occurring in the message). -/
theorem C05_decorated_iff (e : Exc) (hz : Hazards) (ctx : String) :
    (decorate e hz ctx).decorated = (hz.isException && hz.messageOk && hz.subclassable) := by
  fun_cases decorate e hz ctx <;> simp_all

/-- **The guard is reset whatever happens**: after any top-level build entered with the
    guard down, the guard is down again. -/
theorem C05_guard_reset (r : BuildRun) : (inBuild false r).1 = false := rfl

/-- **Nested builds are rejected**, and rejecting one does not release the outer guard. -/
theorem C05_nested_rejected (r : BuildRun) : inBuild true r = (true, [.rejected]) := rfl

/-- A build entered with the guard down records `r.nested` rejections, then its own outcome.
    This restates the `else` branch of `inBuild`: that a nested attempt is rejected is written into
    the model (`List.replicate … .rejected`), not obtained by running the attempt through the guard. -/
theorem C05_all_nested_rejected (r : BuildRun) :
    (inBuild false r).2 =
      List.replicate r.nested GuardObs.rejected ++ [if r.fails then .failed else .built] := rfl

theorem runBuilds_false (rs : List BuildRun) :
    runBuilds false rs = (false, rs.map fun r => (inBuild false r).2) := by
  induction rs with
  | nil => rfl
  | cons r rs ih => simp [runBuilds, inBuild, ih]

/-- **Sequences**: after any sequence of builds with arbitrary failures, the guard is down. -/
theorem C05_sequences (rs : List BuildRun) : (runBuilds false rs).1 = false := by
  rw [runBuilds_false]

/-- … so the next build after any such sequence is not rejected: it records what a build entered
    with the guard down records. -/
theorem C05_next_build_ok (rs : List BuildRun) (r : BuildRun) :
    (inBuild (runBuilds false rs).1 r).2 =
      List.replicate r.nested GuardObs.rejected ++ [if r.fails then .failed else .built] := by
  rw [C05_sequences]; rfl

end Fiddle
